/-
The monotone clause of C15 for `FindByAge`: when message times never decrease with the
offset, `FindByAge t` leaves no message older than `t` behind.

`HelpersOK.findByAge_scan`: the result is a prefix of the scanned messages (those up to the
first one newer than `t`), and what it leaves of them lies at or above the bound computed from
`GetByTime t`. `TimeOK.getByTime_ok` says that bound is the offset of the first live message at
or after `t` (or `NextOffset` when there is none, or no time index). Under `Spec.Monotone` every
message older than `t` is scanned and lies below that bound.
-/
import Klev.Proofs.HelpersOK
import Klev.Proofs.ExtReads
namespace Klev

open Helpers

theorem time_le_of_off_le {L : List Msg} (ho : L.Pairwise (fun a b => a.off < b.off))
    (ht : L.Pairwise (fun a b => a.time ≤ b.time)) {a b : Msg} (ha : a ∈ L) (hb : b ∈ L) :
    a.off ≤ b.off → a.time ≤ b.time :=
  List.Pairwise.forall_of_forall_of_flip (R := fun a b => a.off ≤ b.off → a.time ≤ b.time)
    (fun _ _ _ => Int.le_refl _) (ht.imp fun {a b} h (_ : a.off ≤ b.off) => h)
    (ho.imp fun hlt hle => absurd hlt (Int.not_lt.mpr hle)) ha hb

theorem ageBound_spec (l : Log) (hinv : Inv l) (hm : Spec.Monotone (abs l)) (t : Int)
    (hgt : Spec.GetByTimeOK l.opts.params.times (abs l) t (l.getByTime t).2) :
    ((abs l).live = [] ∧ l.opts.params.times = true ∧
        (ageBound (l.getByTime t).1 (l.getByTime t).2).2 = .err .invalidOffset) ∨
     ∃ maxOff, (ageBound (l.getByTime t).1 (l.getByTime t).2).2 = .ok maxOff ∧
        0 ≤ maxOff ∧ maxOff ≤ (abs l).next ∧
        ∀ x ∈ (abs l).live, x.time < t → x.off < maxOff := by
  have hwf := abs_wf l hinv
  have hnn := abs_next_nonneg l hinv
  have h1 := (getByTime_loads l t).loaded hinv
  obtain ⟨hno, _⟩ := nextOffset_spec (l.getByTime t).1 h1.inv
  rw [h1.abs] at hno
  have hnext : ∃ maxOff, ((l.getByTime t).1.nextOffset).2 = .ok maxOff ∧
      0 ≤ maxOff ∧ maxOff ≤ (abs l).next ∧ ∀ x ∈ (abs l).live, x.time < t → x.off < maxOff :=
    ⟨(abs l).next, hno, hnn, Int.le_refl _, fun x hx _ => (hwf.2 x hx).2⟩
  unfold Spec.GetByTimeOK at hgt
  by_cases hp : l.opts.params.times = true
  · simp only [hp, not_true_eq_false, if_false] at hgt
    cases hf : (abs l).live.find? (fun m => decide (t ≤ m.time)) with
    | some m =>
      rw [hf] at hgt
      dsimp only at hgt
      rw [hgt]
      right
      have hml : m ∈ (abs l).live := List.mem_of_find?_eq_some hf
      have hmt : t ≤ m.time := by simpa using List.find?_some hf
      refine ⟨m.off, rfl, (hwf.2 m hml).1, Int.le_of_lt (hwf.2 m hml).2, ?_⟩
      intro x hx hxt
      apply Int.lt_of_not_ge
      intro hge
      exact Int.not_lt.mpr (Int.le_trans hmt (time_le_of_off_le hwf.1 hm.1 hml hx hge)) hxt
    | none =>
      rw [hf] at hgt
      dsimp only at hgt
      rcases hgt with hgt | ⟨hnil, hgt⟩
      · rw [hgt]; right; exact hnext
      · rw [hgt]; left; exact ⟨hnil, hp, rfl⟩
  · simp only [hp] at hgt
    rw [hgt]; right; exact hnext

/-- `findByAge_scan` with the bound named (`ageBound_spec`). -/
theorem findByAge_res' (l : Log) (hinv : Inv l) (hm : Spec.Monotone (abs l)) (t : Int)
    (hgt : Spec.GetByTimeOK l.opts.params.times (abs l) t (l.getByTime t).2) :
    ((abs l).live = [] ∧ l.opts.params.times = true ∧
        (findByAge l t).2 = .err .invalidOffset) ∨
     ∃ maxOff S R, S ++ R = Spec.scanned (abs l) t ∧ (findByAge l t).2 = .ok (Spec.offsOf S) ∧
        (∀ m ∈ R, maxOff ≤ m.off) ∧ ∀ x ∈ (abs l).live, x.time < t → x.off < maxOff := by
  have hnn := abs_next_nonneg l hinv
  obtain ⟨_, hsc⟩ := findByAge_scan l hinv t
  rcases ageBound_spec l hinv hm t hgt with ⟨hnil, hp, hr⟩ | ⟨maxOff, hr, h0, hle, hbelow⟩
  · rw [hr] at hsc
    exact Or.inl ⟨hnil, hp, hsc⟩
  · rw [hr] at hsc
    rcases hsc with ⟨S, R, hSR, hro, hge⟩ | ⟨_, hbad⟩
    · exact Or.inr ⟨maxOff, S, R, hSR, hro, hge, hbelow⟩
    · exact absurd hbad (no_panic (by omega) hle)

theorem findByAge_mono_of_getByTimeOK (l : Log) (hinv : Inv l) (hm : Spec.Monotone (abs l))
    (t : Int) (hgt : Spec.GetByTimeOK l.opts.params.times (abs l) t (l.getByTime t).2)
    (offs : List Int) (hr : (findByAge l t).2 = .ok offs) :
    Spec.FindByAgeOK true (abs l) t (.ok offs) ∧
    Inv (findByAge l t).1 ∧ abs (findByAge l t).1 = abs l := by
  obtain ⟨hok, hi, ha⟩ := findByAge_ok_of_ok l hinv t offs hr
  refine ⟨?_, hi, ha⟩
  unfold Spec.FindByAgeOK at hok ⊢
  dsimp only at hok ⊢
  refine ⟨hok.1, hok.2.1, ?_⟩
  intro _ x hx hxt
  rcases findByAge_res' l hinv hm t hgt with ⟨_, _, he⟩ | ⟨maxOff, S, R, hSR, hro, hge, hbelow⟩
  · rw [he] at hr; cases hr
  · rw [hro] at hr
    obtain rfl := Out.ok.inj hr
    -- `x` is scanned, as times never decrease, and below the bound: it is not in `R`
    have hxs : x ∈ S ++ R := by
      rw [hSR, Spec.scanned_eq_filter hm]
      exact List.mem_filter.mpr ⟨hx, decide_eq_true (Int.le_of_lt hxt)⟩
    rcases List.mem_append.mp hxs with h | h
    · exact List.mem_map_of_mem h
    · exact absurd (hbelow x hx hxt) (Int.not_lt.mpr (hge x h))

/-- **C15, the monotone clause.** Under non-decreasing times, with the time index carrying the
record times (`TimesInv`) and segments starting at their base offset (`FirstAtBase`) — the
hypotheses of `getByTime_ok` — `FindByAge t` selects every message older than `t`. -/
theorem findByAge_mono (l : Log) (hinv : Inv l) (ht : TimesInv l) (hm : Spec.Monotone (abs l))
    (hfab : FirstAtBase l) (t : Int) (offs : List Int)
    (hr : (findByAge l t).2 = .ok offs) :
    Spec.FindByAgeOK true (abs l) t (.ok offs) ∧
    Inv (findByAge l t).1 ∧ abs (findByAge l t).1 = abs l :=
  findByAge_mono_of_getByTimeOK l hinv hm t (getByTime_ok l hinv ht hm hfab t) offs hr

/-- The total form: `FindByAge` does return, unless the log is empty with the time index on
(`findByAge_empty_times`: there it passes on `GetByTime`'s `ErrInvalidOffset`). -/
theorem findByAge_mono_total (l : Log) (hinv : Inv l) (ht : TimesInv l)
    (hm : Spec.Monotone (abs l)) (hfab : FirstAtBase l) (t : Int)
    (hne : (abs l).live ≠ [] ∨ l.opts.params.times = false) :
    Spec.FindByAgeOK true (abs l) t (findByAge l t).2 ∧
    Inv (findByAge l t).1 ∧ abs (findByAge l t).1 = abs l := by
  have hgt := getByTime_ok l hinv ht hm hfab t
  rcases findByAge_res' l hinv hm t hgt with ⟨hnil, hp, _⟩ | ⟨_, S, _, _, hro, _, _⟩
  · rcases hne with h | h
    · exact absurd hnil h
    · rw [hp] at h; cases h
  · have := findByAge_mono_of_getByTimeOK l hinv hm t hgt _ hro
    rw [hro]
    exact this

/-- **C15, the monotone clause, on every reachable state**: after any history from an empty
directory (publishes, deletes, reads, lookups, GC, reopens) that keeps the time index
configured and whose published times are non-negative and never decrease — conditions on
the operation list alone — `FindByAge t` selects every message older than `t`. -/
theorem findByAge_mono_run (oo : OpenOpts) (xs : List OpX) (hsame : SameParamsX oo.opts.params xs)
    (hp : oo.opts.params.times = true) (hmono : PubMonoX 0 xs) (t : Int) :
    ∀ l0, Log.open [] oo = .ok l0 → ∀ offs, (findByAge (runX l0 xs) t).2 = .ok offs →
    Spec.FindByAgeOK true (abs (runX l0 xs)) t (.ok offs) ∧
    Inv (findByAge (runX l0 xs) t).1 ∧ abs (findByAge (runX l0 xs) t).1 = abs (runX l0 xs) := by
  intro l0 ho offs hr
  have hg := good_runX_mono oo xs hsame (fun _ => hmono) l0 ho
  obtain ⟨hti, hm⟩ := hg.times (by
    rw [runX_params l0 xs (by rw [(open_nil_spec oo l0 ho).2.2]; exact hsame),
      (open_nil_spec oo l0 ho).2.2]
    exact hp)
  exact findByAge_mono (runX l0 xs) hg.inv hti hm hg.fab t offs hr

namespace FindByAgeEx

/-- Read-write, time index on, rollover after 60 bytes. -/
def oo : OpenOpts := ⟨⟨false, ⟨true, false⟩, false, 60, Ver.v2, false⟩, false, false, false⟩

/-- Two publishes with non-decreasing times (the second rolls over) and a lookup between. -/
def ops : List OpX :=
  [.op (.publish [(10, [1], [1]), (20, [2], [2])]),
   .getByTime 20,
   .op (.publish [(20, [3], [3]), (30, [4], [4]), (40, [5], [5])])]

/-- What `Open` on an empty directory returns. -/
def l0 : Log := ⟨oo.opts, [⟨0, .v2, [], some ⟨.v2, []⟩, some []⟩], 0, 0⟩

/-- Two segments: offsets 0–1 (times 10, 20) and 2–4 (times 20, 30, 40). -/
def l : Log := runX l0 ops

theorem open_l0 : Log.open [] oo = .ok l0 := by decide

theorem ops_same : SameParamsX oo.opts.params ops := by
  simp [SameParamsX, OpParamsX, OpParams, ops]

theorem ops_mono : PubMonoX 0 ops := by
  simp [PubMonoX, PubMonoOpX, PubMonoOp, hwNextX, hwNext, lastTime, ops]

/-- The hypotheses of `findByAge_mono` hold of `l`. -/
theorem l_hyps : Inv l ∧ TimesInv l ∧ Spec.Monotone (abs l) ∧ FirstAtBase l := by
  have hg : Good l := good_runX_mono oo ops ops_same (fun _ => ops_mono) l0 open_l0
  obtain ⟨hti, hm⟩ := hg.times (by decide)
  exact ⟨hg.inv, hti, hm, hg.fab⟩

/-- The shape of the example and the evaluated result, `t = 25` in the middle: the bound
`GetByTime 25` finds is offset 3 in the second segment. -/
example : l.segs.length = 2 ∧ (abs l).live.map (fun m => (m.off, m.time)) =
      [(0, 10), (1, 20), (2, 20), (3, 30), (4, 40)] ∧
    (l.getByTime 25).2 = .ok ⟨3, 30, [4], [4]⟩ ∧ (findByAge l 25).2 = .ok [0, 1, 2] := by decide +kernel

/-- The relation with the monotone clause, checked directly on the evaluated result … -/
example : Spec.FindByAgeOK true (abs l) 25 (findByAge l 25).2 := by decide +kernel

/-- … and the same from the theorem. -/
example : Spec.FindByAgeOK true (abs l) 25 (.ok [0, 1, 2]) :=
  (findByAge_mono l l_hyps.1 l_hyps.2.1 l_hyps.2.2.1 l_hyps.2.2.2 25 [0, 1, 2] (by decide +kernel)).1

/-- … and from the corollary over histories. -/
example : Spec.FindByAgeOK true (abs l) 25 (.ok [0, 1, 2]) :=
  (findByAge_mono_run oo ops ops_same rfl ops_mono 25 l0 open_l0 [0, 1, 2] (by decide +kernel)).1

/-- The clause is about messages *older* than `t`, and cannot be about `time ≤ t`: with `t`
equal to a message time the bound is the first message at `t` (offset 1), the scan ends
with the chunk that holds it, and the message at offset 2 — also at time 20, in the next
segment — stays. -/
example : (findByAge l 20).2 = .ok [0, 1] ∧ Spec.FindByAgeOK true (abs l) 20 (findByAge l 20).2 ∧
    ∃ m ∈ (abs l).live, m.time ≤ 20 ∧ m.off ∉ [0, 1] := by decide +kernel

end FindByAgeEx

end Klev

#print axioms Klev.findByAge_res'
#print axioms Klev.findByAge_mono_of_getByTimeOK
#print axioms Klev.findByAge_mono
#print axioms Klev.findByAge_mono_total
#print axioms Klev.findByAge_mono_run
