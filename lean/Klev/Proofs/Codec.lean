/-
The record codecs and the index item codec round-trip (`Klev/Codec.lean`). Each decoder is
unfolded once, in `decV1_header` / `decV2_header`; a whole frame in a file (`decV1_frame`,
`decV2_frame`) and a frame cut behind its header (`decV1_cut`, `decV2_cut`) are what the
round trips, the torn-record and the damage theorems are instances of.
`crc32c` is never unfolded: the proofs only use that the decoder recomputes the CRC over
exactly the bytes the encoder covered, and that a CRC fits in four bytes.
-/
import Klev.Codec
import Klev.Proofs.Bytes
namespace Klev

/-- What `Publish` can store without loss: offset and time are `int64`, and the body is
within `MaxMessageBodySize`. -/
def Msg.Encodable (m : Msg) : Prop :=
  -(two63 : Int) ≤ m.off ∧ m.off < two63 ∧ -(two63 : Int) ≤ m.time ∧ m.time < two63 ∧
    m.key.length + m.val.length ≤ maxBody

theorem maxBody_eq : maxBody = 67108864 := by rfl
theorem trailer_length : trailer.length = 8 := by rfl
theorem pow256_8 : (256 : Nat) ^ 8 = two64 := by rfl
theorem pow256_4 : (256 : Nat) ^ 4 = two32 := by rfl

theorem slice_length (b : List UInt8) (pos n : Nat) :
    (slice b pos n).length = min n (b.length - pos) := by
  simp [slice]

theorem slice_append_right (a l : List UInt8) (i n : Nat) :
    slice (a ++ l) (a.length + i) n = slice l i n := by
  unfold slice
  rw [List.drop_append, List.drop_eq_nil_of_le (Nat.le_add_right _ _), List.nil_append,
    Nat.add_sub_cancel_left]

theorem slice_append_left (a l : List UInt8) (i n : Nat) (h : i + n ≤ a.length) :
    slice (a ++ l) i n = slice a i n := by
  unfold slice
  rw [List.drop_append_of_le_length (Nat.le_trans (Nat.le_add_right i n) h),
    List.take_append_of_le_length (by rw [List.length_drop]; exact Nat.le_sub_of_add_le' h)]

theorem slice_mid (pre x post : List UInt8) (i n : Nat) (h : i + n ≤ x.length) :
    slice (pre ++ x ++ post) (pre.length + i) n = slice x i n := by
  rw [List.append_assoc, slice_append_right, slice_append_left x post i n h]

theorem slice_take (b : List UInt8) (c pos n : Nat) (h : pos + n ≤ c) :
    slice (b.take c) pos n = slice b pos n := by
  unfold slice
  rw [List.drop_take, List.take_take, Nat.min_eq_left (Nat.le_sub_of_add_le' h)]

theorem take_slice_drop (b : List UInt8) (pos n : Nat) :
    b = b.take pos ++ slice b pos n ++ b.drop (pos + n) := by
  unfold slice
  rw [List.append_assoc, ← List.drop_drop, List.take_append_drop, List.take_append_drop]

theorem slice_replace (a d1 d2 z : List UInt8) (hl : d1.length = d2.length) (i n : Nat)
    (h : a.length + d1.length ≤ i ∨ i + n ≤ a.length) :
    slice (a ++ d1 ++ z) i n = slice (a ++ d2 ++ z) i n := by
  rcases h with h | h
  · obtain ⟨j, rfl⟩ := Nat.exists_eq_add_of_le h
    rw [← List.length_append, slice_append_right, List.length_append, hl, ← List.length_append,
      slice_append_right]
  · rw [List.append_assoc, List.append_assoc, slice_append_left _ _ _ _ h,
      slice_append_left _ _ _ _ h]

theorem slice_block (pre x post : List UInt8) :
    slice (pre ++ x ++ post) pre.length x.length = x := by
  rw [slice, List.append_assoc, List.drop_left, List.take_left]

theorem i64_field (x : Int) (h1 : -(two63 : Int) ≤ x) (h2 : x < (two63 : Int)) :
    i64 (unbe (be 8 (u64 x))) = x := by
  rw [unbe_be 8 _ (by rw [pow256_8]; exact u64_lt x), i64_u64 x h1 h2]

theorem i32_len (n : Nat) (h : n ≤ maxBody) : i32 (unbe (be 4 n)) = (n : Int) := by
  rw [maxBody_eq] at h
  rw [unbe_be 4 n (by rw [pow256_4]; exact Nat.lt_of_le_of_lt h (by decide : 67108864 < two32)),
    i32_nat n (Nat.lt_of_le_of_lt h (by decide : 67108864 < two31))]

theorem crcBytes_length (bs : List UInt8) : (crcBytes bs).length = 4 := be_length _ _

theorem unbe_crcBytes (bs : List UInt8) : unbe (crcBytes bs) = (crc32c bs).toNat := by
  unfold crcBytes
  exact unbe_be 4 _ (by rw [pow256_4]; exact (crc32c bs).isLt)

/-- The two tests of `Reader.read` on the length fields. -/
theorem len_tests (k vl : Nat) (hmax : k + vl ≤ maxBody) :
    ¬ ((k : Int) < 0 ∨ (vl : Int) < 0) ∧ ¬ ((k : Int) + (vl : Int) > (maxBody : Int)) :=
  ⟨not_or.mpr ⟨Int.not_lt.mpr (Int.natCast_nonneg k), Int.not_lt.mpr (Int.natCast_nonneg vl)⟩,
    Int.not_lt.mpr (Int.natCast_add k vl ▸ Int.ofNat_le.mpr hmax)⟩

theorem decV1_header (b : List UInt8) (pos : Nat) (x : List UInt8) (k vl : Nat)
    (hh : slice b pos 28 = x.take 28) (hx : 28 ≤ x.length) (hk : slice x 16 4 = be 4 k)
    (hv : slice x 20 4 = be 4 vl) (hmax : k + vl ≤ maxBody) :
    decV1 b pos =
      if (slice b (pos + 28) (k + vl)).length < k + vl then .bad .shortData
      else if (crc32c (slice b (pos + 28) (k + vl))).toNat ≠ unbe (slice x 24 4) then .bad .crc
      else .ok ⟨i64 (unbe (slice x 0 8)), i64 (unbe (slice x 8 8)),
        (slice b (pos + 28) (k + vl)).take k, ((slice b (pos + 28) (k + vl)).drop k).take vl⟩
        (pos + 28 + (k + vl)) := by
  have hf : ∀ i n, i + n ≤ 28 → ((x.take 28).drop i).take n = slice x i n := slice_take x 28
  unfold decV1
  simp only [hh, List.length_take_of_le hx, hf 16 4 (by decide), hf 20 4 (by decide), hk, hv,
    i32_len k (Nat.le_trans (Nat.le_add_right k vl) hmax),
    i32_len vl (Nat.le_trans (Nat.le_add_left vl k) hmax), Int.toNat_natCast,
    len_tests k vl hmax, if_false, hf 8 8 (by decide), hf 24 4 (by decide),
    show (x.take 28).take 8 = slice x 0 8 from hf 0 8 (by decide),
    show ¬ (28 = 0) by decide, show ¬ (28 < 28) by decide]

theorem decV2_header (b : List UInt8) (pos : Nat) (c B : List UInt8) (k vl : Nat)
    (hh : slice b pos 28 = (c ++ B).take 28) (hc : c.length = 4) (hB : 24 ≤ B.length)
    (hk : slice B 16 4 = be 4 k) (hv : slice B 20 4 = be 4 vl) (hmax : k + vl ≤ maxBody) :
    decV2 b pos =
      if (slice b (pos + 28) (k + vl + 8)).length < k + vl + 8 then .bad .shortData
      else if (crc32c (B.take 24 ++ slice b (pos + 28) (k + vl + 8))).toNat ≠ unbe c then
        .bad .crc
      else if (slice b (pos + 28) (k + vl + 8)).drop (k + vl) ≠ trailer then .bad .trailer
      else .ok ⟨i64 (unbe (slice B 0 8)), i64 (unbe (slice B 8 8)),
        (slice b (pos + 28) (k + vl + 8)).take k,
        ((slice b (pos + 28) (k + vl + 8)).drop k).take vl⟩ (pos + 28 + (k + vl + 8)) := by
  have hh : slice b pos 28 = c ++ B.take 24 := by
    rw [hh, List.take_append, hc, List.take_of_length_le (by rw [hc]; decide)]
  have hf : ∀ i n, i + n ≤ 24 → ((c ++ B.take 24).drop (4 + i)).take n = slice B i n :=
    fun i n h => (hc ▸ slice_append_right c _ i n).trans (slice_take B 24 i n h)
  have hl : (c ++ B.take 24).length = 28 := by
    rw [List.length_append, hc, List.length_take_of_le hB]
  unfold decV2
  simp only [hh, hl,
    show ((c ++ B.take 24).drop 20).take 4 = slice B 16 4 from hf 16 4 (by decide),
    show ((c ++ B.take 24).drop 24).take 4 = slice B 20 4 from hf 20 4 (by decide), hk, hv,
    i32_len k (Nat.le_trans (Nat.le_add_right k vl) hmax),
    i32_len vl (Nat.le_trans (Nat.le_add_left vl k) hmax), Int.toNat_natCast,
    len_tests k vl hmax, if_false, List.take_left' hc, List.drop_left' hc,
    show (B.take 24).take 8 = slice B 0 8 from slice_take B 24 0 8 (by decide),
    show ((c ++ B.take 24).drop 12).take 8 = slice B 8 8 from hf 8 8 (by decide),
    show ¬ (28 = 0) by decide, show ¬ (28 < 28) by decide]

/-- Both record layouts are seven fields back to back (`encV1`, and `v2Body` behind the
CRC): each field reads back from behind the ones before it, whatever the widths. -/
theorem fields7 (a b c d e f g : List UInt8) :
    let x := a ++ (b ++ (c ++ (d ++ (e ++ (f ++ g)))))
    slice x 0 a.length = a ∧ slice x (a.length + 0) b.length = b ∧
    slice x (a.length + (b.length + 0)) c.length = c ∧
    slice x (a.length + (b.length + (c.length + 0))) d.length = d ∧
    slice x (a.length + (b.length + (c.length + (d.length + 0)))) e.length = e ∧
    slice x (a.length + (b.length + (c.length + (d.length + (e.length + 0))))) f.length = f ∧
    x.drop (a.length + (b.length + (c.length + (d.length + (e.length + (f.length + 0)))))) = g := by
  intro x
  have h := fun (a l : List UInt8) => (List.take_left' rfl : slice (a ++ l) 0 a.length = a)
  have s := fun (a l : List UInt8) (j n : Nat) => slice_append_right a l j n
  refine ⟨h _ _, ?_, ?_, ?_, ?_, ?_, ?_⟩
  · exact (s ..).trans (h _ _)
  · exact (s ..).trans ((s ..).trans (h _ _))
  · exact (s ..).trans ((s ..).trans ((s ..).trans (h _ _)))
  · exact (s ..).trans ((s ..).trans ((s ..).trans ((s ..).trans (h _ _))))
  · exact (s ..).trans ((s ..).trans ((s ..).trans ((s ..).trans ((s ..).trans (h _ _)))))
  · simp only [x, ← List.append_assoc]
    exact List.drop_left' (by simp only [List.length_append, Nat.add_zero, Nat.add_assoc])

theorem encV1_fields (m : Msg) :
    slice (encV1 m) 0 8 = be 8 (u64 m.off) ∧ slice (encV1 m) 8 8 = be 8 (u64 m.time) ∧
    slice (encV1 m) 16 4 = be 4 m.key.length ∧ slice (encV1 m) 20 4 = be 4 m.val.length ∧
    slice (encV1 m) 24 4 = crcBytes (m.key ++ m.val) ∧
    slice (encV1 m) 28 m.key.length = m.key ∧
    (encV1 m).drop (28 + m.key.length) = m.val := by
  have := fields7 (be 8 (u64 m.off)) (be 8 (u64 m.time)) (be 4 m.key.length) (be 4 m.val.length)
    (crcBytes (m.key ++ m.val)) m.key m.val
  simpa only [encV1, List.append_assoc, be_length, crcBytes_length, Nat.add_zero, ← Nat.add_assoc,
    Nat.reduceAdd] using this

theorem encV1_length (m : Msg) : (encV1 m).length = 28 + (m.key.length + m.val.length) := by
  simp only [encV1, List.length_append, be_length, crcBytes_length, Nat.add_assoc, Nat.reduceAdd]

theorem decV1_frame (pre post x : List UInt8) (k vl : Nat) (hx : x.length = 28 + (k + vl))
    (hk : slice x 16 4 = be 4 k) (hv : slice x 20 4 = be 4 vl) (hmax : k + vl ≤ maxBody) :
    decV1 (pre ++ x ++ post) pre.length =
      if (crc32c (x.drop 28)).toNat ≠ unbe (slice x 24 4) then .bad .crc
      else .ok ⟨i64 (unbe (slice x 0 8)), i64 (unbe (slice x 8 8)), slice x 28 k,
        x.drop (28 + k)⟩ (pre.length + 28 + (k + vl)) := by
  have h28 : 28 ≤ x.length := by rw [hx]; exact Nat.le_add_right _ _
  have hd : (x.drop 28).length = k + vl := by
    rw [List.length_drop, hx, Nat.add_sub_cancel_left]
  have hdk : ((x.drop 28).drop k).length = vl := by
    rw [List.length_drop, hd, Nat.add_sub_cancel_left]
  have e1 : slice (pre ++ x ++ post) pre.length 28 = x.take 28 :=
    slice_mid pre x post 0 28 h28
  have e2 : slice (pre ++ x ++ post) (pre.length + 28) (k + vl) = x.drop 28 :=
    (slice_mid pre x post 28 (k + vl) (Nat.le_of_eq hx.symm)).trans
      (List.take_of_length_le (Nat.le_of_eq hd))
  rw [decV1_header _ _ x k vl e1 h28 hk hv hmax, e2, if_neg (Nat.not_lt.mpr (Nat.le_of_eq hd.symm)),
    List.take_of_length_le (Nat.le_of_eq hdk), List.drop_drop]
  rfl

theorem decV1_cut (pre x : List UInt8) (j k vl : Nat) (h28 : 28 ≤ j) (hj : j < x.length)
    (hx : x.length = 28 + (k + vl)) (hk : slice x 16 4 = be 4 k) (hv : slice x 20 4 = be 4 vl)
    (hmax : k + vl ≤ maxBody) : decV1 (pre ++ x.take j) pre.length = .bad .shortData := by
  have e1 : slice (pre ++ x.take j) pre.length 28 = x.take 28 :=
    (slice_append_right pre _ 0 28).trans (slice_take x j 0 28 h28)
  have hjl : j - 28 < k + vl := Nat.sub_lt_left_of_lt_add h28 (by rwa [hx] at hj)
  rw [decV1_header _ _ x k vl e1 (Nat.le_trans h28 (Nat.le_of_lt hj)) hk hv hmax, if_pos]
  rw [slice_length, List.length_append, List.length_take_of_le (Nat.le_of_lt hj),
    Nat.add_sub_add_left]
  exact Nat.lt_of_le_of_lt (Nat.min_le_right _ _) hjl

theorem v2Body_fields (m : Msg) :
    slice (v2Body m) 0 8 = be 8 (u64 m.off) ∧ slice (v2Body m) 8 8 = be 8 (u64 m.time) ∧
    slice (v2Body m) 16 4 = be 4 m.key.length ∧ slice (v2Body m) 20 4 = be 4 m.val.length ∧
    slice (v2Body m) 24 m.key.length = m.key ∧
    slice (v2Body m) (24 + m.key.length) m.val.length = m.val ∧
    (v2Body m).drop (24 + m.key.length + m.val.length) = trailer := by
  have := fields7 (be 8 (u64 m.off)) (be 8 (u64 m.time)) (be 4 m.key.length) (be 4 m.val.length)
    m.key m.val trailer
  simpa only [v2Body, List.append_assoc, be_length, trailer_length, Nat.add_zero, ← Nat.add_assoc,
    Nat.reduceAdd] using this

theorem v2Body_length (m : Msg) : (v2Body m).length = 24 + (m.key.length + m.val.length + 8) := by
  simp only [v2Body, List.length_append, be_length, trailer_length, Nat.add_assoc, Nat.reduceAdd]

theorem encV2_length (m : Msg) : (encV2 m).length = 28 + (m.key.length + m.val.length + 8) := by
  rw [encV2, List.length_append, crcBytes_length, v2Body_length, ← Nat.add_assoc]

theorem decV2_frame (pre post c B : List UInt8) (k vl : Nat) (hc : c.length = 4)
    (hB : B.length = 24 + (k + vl + 8)) (hk : slice B 16 4 = be 4 k)
    (hv : slice B 20 4 = be 4 vl) (hmax : k + vl ≤ maxBody) :
    decV2 (pre ++ (c ++ B) ++ post) pre.length =
      if (crc32c B).toNat ≠ unbe c then .bad .crc
      else if B.drop (24 + (k + vl)) ≠ trailer then .bad .trailer
      else .ok ⟨i64 (unbe (slice B 0 8)), i64 (unbe (slice B 8 8)), slice B 24 k,
        slice B (24 + k) vl⟩ (pre.length + 28 + (k + vl + 8)) := by
  have hcB : (c ++ B).length = 28 + (k + vl + 8) := by
    rw [List.length_append, hc, hB, ← Nat.add_assoc]
  have h28 : 28 ≤ (c ++ B).length := by rw [hcB]; exact Nat.le_add_right _ _
  have h24 : 24 ≤ B.length := by rw [hB]; exact Nat.le_add_right _ _
  have hd : (B.drop 24).length = k + vl + 8 := by
    rw [List.length_drop, hB, Nat.add_sub_cancel_left]
  have e1 : slice (pre ++ (c ++ B) ++ post) pre.length 28 = (c ++ B).take 28 :=
    slice_mid pre (c ++ B) post 0 28 h28
  have e2 : slice (pre ++ (c ++ B) ++ post) (pre.length + 28) (k + vl + 8) = B.drop 24 := by
    rw [slice_mid pre (c ++ B) post 28 _ (Nat.le_of_eq hcB.symm)]
    -- byte 28 = `c.length + 24` of `c ‖ B` is byte 24 of `B`
    exact (hc ▸ slice_append_right c B 24 _).trans (List.take_of_length_le (Nat.le_of_eq hd))
  rw [decV2_header _ _ c B k vl e1 hc h24 hk hv hmax, e2,
    if_neg (Nat.not_lt.mpr (Nat.le_of_eq hd.symm)), List.take_append_drop, List.drop_drop,
    List.drop_drop]
  rfl

theorem decV2_cut (pre c B : List UInt8) (j k vl : Nat) (hc : c.length = 4) (h28 : 28 ≤ j)
    (hj : j < (c ++ B).length) (hB : B.length = 24 + (k + vl + 8))
    (hk : slice B 16 4 = be 4 k) (hv : slice B 20 4 = be 4 vl) (hmax : k + vl ≤ maxBody) :
    decV2 (pre ++ (c ++ B).take j) pre.length = .bad .shortData := by
  have e1 : slice (pre ++ (c ++ B).take j) pre.length 28 = (c ++ B).take 28 :=
    (slice_append_right pre _ 0 28).trans (slice_take (c ++ B) j 0 28 h28)
  have hjl : j - 28 < k + vl + 8 := by
    rw [List.length_append, hc, hB, ← Nat.add_assoc] at hj
    exact Nat.sub_lt_left_of_lt_add h28 hj
  have h24 : 24 ≤ B.length := by rw [hB]; exact Nat.le_add_right _ _
  rw [decV2_header _ _ c B k vl e1 hc h24 hk hv hmax, if_pos]
  rw [slice_length, List.length_append, List.length_take_of_le (Nat.le_of_lt hj),
    Nat.add_sub_add_left]
  exact Nat.lt_of_le_of_lt (Nat.min_le_right _ _) hjl

/-- `Size(m)` is exactly the number of bytes a record occupies. -/
theorem enc_length (v : Ver) (m : Msg) : ((enc v m).length : Int) = recSize v m := by
  cases v
  · rw [enc, encV1_length, recSize]
    omega
  · rw [enc, encV2_length, recSize]
    omega

theorem enc_length_ge (v : Ver) (m : Msg) : 28 ≤ (enc v m).length := by
  cases v
  · rw [enc, encV1_length]
    exact Nat.le_add_right _ _
  · rw [enc, encV2_length]
    exact Nat.le_add_right _ _

/-- A record reads back identical from the position it was written at, whatever
surrounds it. -/
theorem dec_enc (v : Ver) (pre post : List UInt8) (m : Msg) (h : m.Encodable) :
    dec v (pre ++ enc v m ++ post) pre.length = .ok m (pre.length + (enc v m).length) := by
  obtain ⟨ho1, ho2, ht1, ht2, hb⟩ := h
  cases v
  · obtain ⟨f1, f2, f3, f4, f5, f6, f7⟩ := encV1_fields m
    have hd : (encV1 m).drop 28 = m.key ++ m.val := by
      rw [← f6, ← f7, ← List.drop_drop]
      exact (List.take_append_drop _ _).symm
    rw [dec, enc]
    rw [decV1_frame pre post _ _ _ (encV1_length m) f3 f4 hb, hd, f5, unbe_crcBytes,
      if_neg (fun hne => hne rfl), f1, f2, f6, f7, i64_field _ ho1 ho2, i64_field _ ht1 ht2,
      encV1_length, Nat.add_assoc]
  · obtain ⟨f1, f2, f3, f4, f5, f6, f7⟩ := v2Body_fields m
    rw [dec, enc]
    rw [encV2, decV2_frame pre post _ _ _ _ (crcBytes_length _) (v2Body_length m) f3 f4 hb,
      unbe_crcBytes, if_neg (fun hne => hne rfl), ← Nat.add_assoc, f7,
      if_neg (fun hne => hne rfl), f1, f2, f5, f6, i64_field _ ho1 ho2, i64_field _ ht1 ht2,
      ← encV2, encV2_length, Nat.add_assoc]

theorem dec_of_slice (v : Ver) (b : List UInt8) (pos : Nat) (m : Msg) (h : m.Encodable)
    (hs : slice b pos (enc v m).length = enc v m) :
    dec v b pos = .ok m (pos + (enc v m).length) := by
  have hp : pos ≤ b.length := by
    have hl := slice_length b pos (enc v m).length
    have := enc_length_ge v m
    rw [hs] at hl
    omega
  have hb : b = b.take pos ++ enc v m ++ b.drop (pos + (enc v m).length) := by
    have := take_slice_drop b pos (enc v m).length
    rwa [hs] at this
  have := dec_enc v (b.take pos) (b.drop (pos + (enc v m).length)) m h
  rwa [← hb, List.length_take, Nat.min_eq_left hp] at this

theorem encItem_length (p : Params) (it : Item) : ((encItem p it).length : Int) = p.size := by
  obtain ⟨t, k⟩ := p
  cases t <;> cases k <;> simp [encItem, Params.size, be_length]

theorem u64_field (x : UInt64) : UInt64.ofNat (unbe (be 8 x.toNat)) = x := by
  rw [unbe_be 8 _ (by rw [pow256_8]; exact x.toNat_lt), UInt64.ofNat_toNat]

theorem drop_be8 (x n : Nat) (l : List UInt8) : (be 8 x ++ l).drop (n + 8) = l.drop n := by
  rw [Nat.add_comm, ← List.drop_drop, List.drop_left' (be_length 8 x)]

theorem decItem_encItem (p : Params) (it : Item)
    (ho1 : -(two63 : Int) ≤ it.off) (ho2 : it.off < (two63 : Int))
    (hp1 : -(two63 : Int) ≤ it.pos) (hp2 : it.pos < (two63 : Int))
    (hts : p.times = true → -(two63 : Int) ≤ it.ts ∧ it.ts < (two63 : Int)) :
    decItem p (encItem p it) =
      { it with ts := if p.times then it.ts else 0, kh := if p.keys then it.kh else 0 } := by
  obtain ⟨t, k⟩ := p
  obtain ⟨off, pos, ts, kh⟩ := it
  have ht : t = true → i64 (unbe (be 8 (u64 ts))) = ts := fun h => i64_field ts (hts h).1 (hts h).2
  -- each field is read off the front of `be 8 _ ++ rest`, the later ones behind the earlier
  cases t <;> cases k <;>
    simp only [decItem, encItem, List.append_assoc, List.nil_append, ↓reduceIte, Bool.false_eq_true,
      drop_be8, List.drop_zero, List.take_left' (be_length 8 _),
      List.take_of_length_le (Nat.le_of_eq (be_length 8 _)), i64_field off ho1 ho2,
      i64_field pos hp1 hp2, ht, u64_field]

end Klev

#print axioms Klev.enc_length
#print axioms Klev.dec_enc
#print axioms Klev.decItem_encItem
#print axioms Klev.encItem_length
