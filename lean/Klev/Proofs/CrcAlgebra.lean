/-
Algebra of the CRC-32C register (`Klev/Crc.lean`): GF(2)-linearity, injectivity of the
shift step, and the detection guarantee that follows: any change confined to at most four
consecutive bytes changes the checksum (`crc_burst4`).
-/
import Klev.Crc
namespace Klev

theorem crc32c_rfc3720_zeros : crc32c (List.replicate 32 0) = 0x8A9136AA#32 := by
  decide +kernel

theorem crc32c_check :
    crc32c [0x31,0x32,0x33,0x34,0x35,0x36,0x37,0x38,0x39] = 0xE3069283#32 := by
  decide +kernel

def crcExt (b : UInt8) : BitVec 32 := b.toBitVec.setWidth 32

theorem crcByte_eq (c : BitVec 32) (b : UInt8) : crcByte c b = crcBits 8 (c ^^^ crcExt b) := rfl

theorem crcBit_zero : crcBit 0 = 0 := by decide

theorem crcBit_xor (a b : BitVec 32) : crcBit (a ^^^ b) = crcBit a ^^^ crcBit b := by
  unfold crcBit
  rw [BitVec.getLsbD_xor, BitVec.ushiftRight_xor_distrib]
  cases a.getLsbD 0 <;> cases b.getLsbD 0 <;> simp only [Bool.xor_false, Bool.xor_true,
    Bool.not_false, Bool.not_true, Bool.false_eq_true, if_false, if_true]
  · ac_rfl
  · ac_rfl
  · -- the polynomial is added twice
    rw [show (a >>> 1 ^^^ crcPoly) ^^^ (b >>> 1 ^^^ crcPoly) =
      (a >>> 1 ^^^ b >>> 1) ^^^ (crcPoly ^^^ crcPoly) by ac_rfl, BitVec.xor_self, BitVec.xor_zero]

theorem crcBits_zero (n : Nat) : crcBits n 0 = 0 := by
  induction n with
  | zero => rfl
  | succ n ih => show crcBits n (crcBit 0) = 0; rw [crcBit_zero, ih]

theorem crcBits_xor (n : Nat) (a b : BitVec 32) :
    crcBits n (a ^^^ b) = crcBits n a ^^^ crcBits n b := by
  induction n generalizing a b with
  | zero => rfl
  | succ n ih => simp only [crcBits, crcBit_xor, ih]

theorem crcBits_add (m n : Nat) (c : BitVec 32) : crcBits (m + n) c = crcBits n (crcBits m c) := by
  induction m generalizing c with
  | zero => simp [crcBits]
  | succ m ih => rw [Nat.succ_add]; simp only [crcBits, ih]

theorem crcExt_zero : crcExt 0 = 0 := by decide

theorem crcExt_xor (x y : UInt8) : crcExt (x ^^^ y) = crcExt x ^^^ crcExt y := by
  simp [crcExt, BitVec.setWidth_xor]

theorem crcExt_injective {x y : UInt8} (h : crcExt x = crcExt y) : x = y := by
  apply UInt8.eq_of_toBitVec_eq
  have := congrArg (BitVec.setWidth 8) h
  simpa [crcExt] using this

theorem crcByte_zero_byte (c : BitVec 32) : crcByte c 0 = crcBits 8 c := by
  rw [crcByte_eq, crcExt_zero]; simp

theorem crcByte_xor_xor (c d : BitVec 32) (x y : UInt8) :
    crcByte c x ^^^ crcByte d y = crcByte (c ^^^ d) (x ^^^ y) := by
  rw [crcByte_eq, crcByte_eq, crcByte_eq, ← crcBits_xor, crcExt_xor]
  congr 1; ac_rfl

/-- `crcByte` is affine in the register: a register difference `d` propagates as `crcBits 8 d`. -/
theorem crcByte_xor (c d : BitVec 32) (b : UInt8) :
    crcByte (c ^^^ d) b = crcByte c b ^^^ crcBits 8 d := by
  rw [← crcByte_zero_byte, crcByte_xor_xor, UInt8.xor_zero]

theorem crcUpdate_nil (c : BitVec 32) : crcUpdate c [] = c := rfl

theorem crcUpdate_cons (c : BitVec 32) (b : UInt8) (bs : List UInt8) :
    crcUpdate c (b :: bs) = crcUpdate (crcByte c b) bs := rfl

theorem crcUpdate_append (c : BitVec 32) (xs ys : List UInt8) :
    crcUpdate c (xs ++ ys) = crcUpdate (crcUpdate c xs) ys := by
  simp [crcUpdate, List.foldl_append]

theorem crcUpdate_zeros (c : BitVec 32) (n : Nat) :
    crcUpdate c (List.replicate n 0) = crcBits (8 * n) c := by
  induction n generalizing c with
  | zero => rfl
  | succ n ih =>
    rw [List.replicate_succ, crcUpdate_cons, ih, crcByte_zero_byte, Nat.mul_succ, Nat.add_comm,
      crcBits_add]

theorem crcUpdate_xor_xor (c d : BitVec 32) (xs ys : List UInt8) (h : xs.length = ys.length) :
    crcUpdate c xs ^^^ crcUpdate d ys = crcUpdate (c ^^^ d) (List.zipWith (· ^^^ ·) xs ys) := by
  induction xs generalizing c d ys with
  | nil => cases ys with
    | nil => rfl
    | cons y ys => simp at h
  | cons x xs ih => cases ys with
    | nil => simp at h
    | cons y ys =>
      simp only [List.length_cons, Nat.add_right_cancel_iff] at h
      simp only [crcUpdate_cons, List.zipWith_cons_cons]
      rw [ih _ _ _ h, crcByte_xor_xor]

theorem crcUpdate_xor (c d : BitVec 32) (bs : List UInt8) :
    crcUpdate (c ^^^ d) bs = crcUpdate c bs ^^^ crcUpdate d (List.replicate bs.length 0) := by
  rw [crcUpdate_xor_xor c d bs _ (by simp)]
  congr 1
  induction bs with
  | nil => rfl
  | cons b bs ih => simp [List.replicate_succ, ← ih]

/-- The bit shifted out is recoverable: the polynomial's top bit is set. -/
theorem crcBit_msb (a : BitVec 32) : (crcBit a).getLsbD 31 = a.getLsbD 0 := by
  have hp : crcPoly.getLsbD 31 = true := by decide
  unfold crcBit
  cases h : a.getLsbD 0 <;> simp [hp]

theorem eq_of_lsb_of_shift {a b : BitVec 32} (h0 : a.getLsbD 0 = b.getLsbD 0)
    (h1 : a >>> 1 = b >>> 1) : a = b := by
  apply BitVec.eq_of_getLsbD_eq
  intro i hi
  cases i with
  | zero => exact h0
  | succ i =>
    have := congrArg (·.getLsbD i) h1
    simpa only [BitVec.getLsbD_ushiftRight, Nat.add_comm 1 i] using this

theorem crcBit_injective {a b : BitVec 32} (h : crcBit a = crcBit b) : a = b := by
  have h0 : a.getLsbD 0 = b.getLsbD 0 := by
    rw [← crcBit_msb a, ← crcBit_msb b, h]
  apply eq_of_lsb_of_shift h0
  unfold crcBit at h
  rw [h0] at h
  split at h
  · exact (BitVec.xor_left_inj _).mp h
  · exact h

theorem crcBit_eq_zero_iff (a : BitVec 32) : crcBit a = 0 ↔ a = 0 := by
  constructor
  · intro h; exact crcBit_injective (h.trans crcBit_zero.symm)
  · intro h; rw [h, crcBit_zero]

theorem crcBits_injective (n : Nat) {a b : BitVec 32} (h : crcBits n a = crcBits n b) : a = b := by
  induction n generalizing a b with
  | zero => exact h
  | succ n ih => exact crcBit_injective (ih h)

theorem crcBits_eq_zero_iff (n : Nat) (a : BitVec 32) : crcBits n a = 0 ↔ a = 0 := by
  constructor
  · intro h; exact crcBits_injective n (h.trans (crcBits_zero n).symm)
  · intro h; rw [h, crcBits_zero]

theorem crcUpdate_zero_zeros (n : Nat) : crcUpdate 0 (List.replicate n 0) = 0 := by
  rw [crcUpdate_zeros, crcBits_zero]

/-- A non-zero register stays non-zero under zero bytes. -/
theorem crcUpdate_zeros_eq_zero_iff (c : BitVec 32) (n : Nat) :
    crcUpdate c (List.replicate n 0) = 0 ↔ c = 0 := by
  rw [crcUpdate_zeros, crcBits_eq_zero_iff]

theorem crcByte_injective_reg {c d : BitVec 32} {b : UInt8} (h : crcByte c b = crcByte d b) :
    c = d :=
  (BitVec.xor_left_inj _).mp (crcBits_injective 8 h)

theorem crcUpdate_injective_reg (bs : List UInt8) {c d : BitVec 32}
    (h : crcUpdate c bs = crcUpdate d bs) : c = d := by
  induction bs generalizing c d with
  | nil => exact h
  | cons b bs ih => exact crcByte_injective_reg (ih h)

/-- Little-endian packing of (up to four) bytes into a register word. -/
def crcPack : List UInt8 → BitVec 32
  | [] => 0
  | b :: bs => crcExt b ^^^ (crcPack bs <<< 8)

theorem crcExt_high (b : UInt8) (i : Nat) (h : 8 ≤ i) : (crcExt b).getLsbD i = false := by
  simp [crcExt, BitVec.getLsbD_setWidth, BitVec.getLsbD_of_ge _ _ h]

theorem crcPack_high (bs : List UInt8) (i : Nat) (h : 8 * bs.length ≤ i) :
    (crcPack bs).getLsbD i = false := by
  induction bs generalizing i with
  | nil => exact BitVec.getLsbD_zero
  | cons b bs ih =>
    rw [List.length_cons, Nat.mul_succ] at h
    rw [crcPack, BitVec.getLsbD_xor, crcExt_high b i (Nat.le_trans (Nat.le_add_left _ _) h),
      BitVec.getLsbD_shiftLeft, ih (i - 8) (Nat.le_sub_of_add_le h), Bool.and_false, Bool.xor_false]

theorem shl_shr_8 (w : BitVec 32) (h : ∀ i, 24 ≤ i → w.getLsbD i = false) :
    (w <<< 8) >>> 8 = w := by
  apply BitVec.eq_of_getLsbD_eq
  intro i hi
  rw [BitVec.getLsbD_ushiftRight, BitVec.getLsbD_shiftLeft, Nat.add_sub_cancel_left,
    decide_eq_false (Nat.not_lt.mpr (Nat.le_add_right 8 i)), Bool.not_false, Bool.and_true]
  by_cases h24 : 24 ≤ i
  · rw [h i h24, Bool.and_false]
  · -- `8 + i < 8 + 24 = 32`
    rw [decide_eq_true (Nat.add_lt_add_left (Nat.lt_of_not_le h24) 8), Bool.true_and]

theorem crcBit_of_even (v : BitVec 32) (h : v.getLsbD 0 = false) : crcBit v = v >>> 1 := by
  unfold crcBit; rw [h]; rfl

theorem crcBits_of_low_zero (n : Nat) (v : BitVec 32) (h : ∀ i, i < n → v.getLsbD i = false) :
    crcBits n v = v >>> n := by
  induction n generalizing v with
  | zero => simp [crcBits]
  | succ n ih =>
    rw [crcBits, crcBit_of_even v (h 0 n.succ_pos), ih, Nat.add_comm n 1, BitVec.shiftRight_add]
    intro i hi
    rw [BitVec.getLsbD_ushiftRight]
    exact h (1 + i) (by omega)

theorem crcBits_8_shl (w : BitVec 32) (h : ∀ i, 24 ≤ i → w.getLsbD i = false) :
    crcBits 8 (w <<< 8) = w := by
  rw [crcBits_of_low_zero 8 (w <<< 8), shl_shr_8 w h]
  intro i hi
  simp [BitVec.getLsbD_shiftLeft, hi]

/-- Feeding ≤ 4 bytes equals clocking 8k bits over the register xor the packed word. -/
theorem crcUpdate_eq_crcBits_pack (c : BitVec 32) (bs : List UInt8) (h : bs.length ≤ 4) :
    crcUpdate c bs = crcBits (8 * bs.length) (c ^^^ crcPack bs) := by
  induction bs generalizing c with
  | nil => simp [crcPack, crcBits]; rfl
  | cons b bs ih =>
    have h3 : bs.length ≤ 3 := Nat.le_of_succ_le_succ h
    -- `8 * bs.length ≤ 8 * 3 = 24 ≤ i`
    have hp : ∀ i, 24 ≤ i → (crcPack bs).getLsbD i = false :=
      fun i hi => crcPack_high bs i (Nat.le_trans (Nat.mul_le_mul_left 8 h3) hi)
    rw [crcUpdate_cons, ih _ (Nat.le_succ_of_le h3), List.length_cons, Nat.mul_succ, Nat.add_comm,
      crcBits_add, crcPack, ← BitVec.xor_assoc, crcBits_xor 8, crcBits_8_shl _ hp, ← crcByte_eq]

theorem crcPack_cons_shr (b : UInt8) (bs : List UInt8) (h : bs.length ≤ 3) :
    crcPack (b :: bs) >>> 8 = crcPack bs := by
  have he : crcExt b >>> 8 = 0 := by
    apply BitVec.eq_of_getLsbD_eq
    intro i hi
    rw [BitVec.getLsbD_ushiftRight, crcExt_high b (8 + i) (Nat.le_add_right 8 i)]; simp
  -- `8 * bs.length ≤ 8 * 3 = 24 ≤ i`
  rw [crcPack, BitVec.ushiftRight_xor_distrib, he,
    shl_shr_8 _ (fun i hi => crcPack_high bs i (Nat.le_trans (Nat.mul_le_mul_left 8 h) hi))]
  exact BitVec.zero_xor

theorem crcPack_injective (xs ys : List UInt8) (hl : xs.length = ys.length) (h4 : xs.length ≤ 4)
    (h : crcPack xs = crcPack ys) : xs = ys := by
  induction xs generalizing ys with
  | nil => exact (List.eq_nil_of_length_eq_zero hl.symm).symm
  | cons x xs ih =>
    cases ys with
    | nil => exact absurd hl (Nat.succ_ne_zero _)
    | cons y ys =>
      have hl' : xs.length = ys.length := Nat.succ.inj hl
      have h3 : xs.length ≤ 3 := Nat.le_of_succ_le_succ h4
      have h8 : crcPack xs = crcPack ys := by
        rw [← crcPack_cons_shr x xs h3, ← crcPack_cons_shr y ys (hl' ▸ h3), h]
      rw [crcPack, crcPack, h8] at h
      rw [crcExt_injective ((BitVec.xor_left_inj _).mp h), ih ys hl' (Nat.le_succ_of_le h3) h8]

theorem crcUpdate_burst4 (c : BitVec 32) (d1 d2 : List UInt8) (hl : d1.length = d2.length)
    (h4 : d1.length ≤ 4) (he : crcUpdate c d1 = crcUpdate c d2) : d1 = d2 := by
  rw [crcUpdate_eq_crcBits_pack c d1 h4, crcUpdate_eq_crcBits_pack c d2 (hl ▸ h4), hl] at he
  exact crcPack_injective d1 d2 hl h4 ((BitVec.xor_right_inj _).mp (crcBits_injective _ he))

theorem crc_burst4 (pre post d1 d2 : List UInt8) (hl : d1.length = d2.length)
    (h4 : d1.length ≤ 4) (hne : d1 ≠ d2) :
    crc32c (pre ++ d1 ++ post) ≠ crc32c (pre ++ d2 ++ post) := by
  intro he
  unfold crc32c at he
  have he := congrArg (~~~ ·) he
  simp only [BitVec.not_not] at he
  rw [crcUpdate_append, crcUpdate_append, crcUpdate_append, crcUpdate_append] at he
  exact hne (crcUpdate_burst4 _ d1 d2 hl h4 (crcUpdate_injective_reg post he))

/-- A single damaged byte (any single-bit flip in particular). -/
theorem crc_single_byte (pre post : List UInt8) (x y : UInt8) (h : x ≠ y) :
    crc32c (pre ++ x :: post) ≠ crc32c (pre ++ y :: post) := by
  have := crc_burst4 pre post [x] [y] rfl (by simp) (fun e => h (List.cons.inj e).1)
  rwa [List.append_assoc, List.append_assoc] at this

/-- The four bytes of a register, least significant first. (The record codecs store the
checksum most significant first: `crcBytes` in `Klev/Codec.lean`.) -/
def crcField (c : BitVec 32) : List UInt8 :=
  [UInt8.ofBitVec (c.setWidth 8), UInt8.ofBitVec ((c >>> 8).setWidth 8),
   UInt8.ofBitVec ((c >>> 16).setWidth 8), UInt8.ofBitVec ((c >>> 24).setWidth 8)]

/-- A stored field differing from the computed one fails the equality check (trivial form). -/
theorem crc_stored_field (body f : List UInt8) (h : f ≠ crcField (crc32c body)) :
    (f == crcField (crc32c body)) = false := by
  simpa using h

end Klev

#print axioms Klev.crc32c_rfc3720_zeros
#print axioms Klev.crc32c_check
#print axioms Klev.crcBit_xor
#print axioms Klev.crcBits_xor
#print axioms Klev.crcByte_xor
#print axioms Klev.crcByte_xor_xor
#print axioms Klev.crcUpdate_xor
#print axioms Klev.crcBit_injective
#print axioms Klev.crcBit_eq_zero_iff
#print axioms Klev.crcBits_eq_zero_iff
#print axioms Klev.crcUpdate_zero_zeros
#print axioms Klev.crcUpdate_zeros_eq_zero_iff
#print axioms Klev.crcUpdate_injective_reg
#print axioms Klev.crc_single_byte
#print axioms Klev.crcUpdate_eq_crcBits_pack
#print axioms Klev.crcUpdate_burst4
#print axioms Klev.crc_burst4
#print axioms Klev.crc_stored_field
