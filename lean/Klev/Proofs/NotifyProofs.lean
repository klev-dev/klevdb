/-
C18 — the notifier of `pkg/notify`: safety of the token discipline, no panic, no deadlock,
no lost wake-up, no spurious wake-up, and the three sequential corner cases.

All "reachable" theorems quantify over every event list from `init n`: any number of
`Wait`/`Set`/`Close` calls, any interleaving, cancellation at any time.
-/
import Klev.Proofs.NotifyInv

namespace Klev.Notify

/-- No send on a closed channel, no close of a closed channel — never. -/
theorem no_panic (n : Int) (evs : List Ev) : (run (init n) evs).st.panicked = false :=
  (tokenInv_run n evs).noPanic

theorem token_unique {c : Cfg} (h : TokenInv c) {i j : Nat} {t u : Th}
    (hi : c.ths[i]? = some t) (hj : c.ths[j]? = some u)
    (ht : inWindow t = true) (hu : inWindow u = true) : i = j :=
  TokenInv'.unique h hi hj ht hu

/-- Barrier full: nobody holds the token; the channel in it is open and allocated. -/
theorem token_full {c : Cfg} (h : TokenInv c) {ch : Nat} (hb : c.st.barrier = .full ch) :
    (∀ (i : Nat) (t : Th), c.ths[i]? = some t → inWindow t = false) ∧
      ch ∉ c.st.closedCh ∧ ch < c.st.fresh :=
  ⟨fun _ _ hi => holders_zero (h.full ch hb).1 hi, (h.full ch hb).2⟩

/-- Barrier empty: exactly one holder; its local `b` is an allocated channel which is
closed iff the holder is a `Set`/`Close` thread past its `closeB`. -/
theorem token_empty {c : Cfg} (h : TokenInv c) (hb : c.st.barrier = .empty) :
    ∃ (i : Nat) (t : Th) (ch : Nat), c.ths[i]? = some t ∧ inWindow t = true ∧ t.b = some ch ∧
      ch < c.st.fresh ∧ (ch ∈ c.st.closedCh ↔ pastCloseB t = true) ∧
      ∀ (j : Nat) (u : Th), c.ths[j]? = some u → inWindow u = true → j = i := by
  obtain ⟨i, t, hi, hw⟩ := TokenInv'.exists_holder h hb
  have hti := h.thInv i t hi
  obtain ⟨ch, hch⟩ := hti.b_of_ok (inWindow_ok hw)
  exact ⟨i, t, ch, hi, hw, hch, hti.blt hch, h.holder i t hi hw ch hch,
    fun j u hj hu => token_unique h hj hi hu hw⟩

/-- Barrier closed: nobody holds the token. -/
theorem token_closed {c : Cfg} (h : TokenInv c) (hb : c.st.barrier = .closed) :
    ∀ (i : Nat) (t : Th), c.ths[i]? = some t → inWindow t = false :=
  fun _ _ hi => holders_zero (h.closed hb) hi

theorem token_window {c : Cfg} (h : TokenInv c) {i : Nat} {t : Th} (hi : c.ths[i]? = some t)
    (hw : inWindow t = true) : c.st.barrier = .empty :=
  TokenInv'.window_empty h hi hw

/-- Every thread-local channel was allocated. -/
theorem local_lt_fresh {c : Cfg} (h : TokenInv c) {i : Nat} {t : Th} {ch : Nat}
    (hi : c.ths[i]? = some t) (hb : t.b = some ch) : ch < c.st.fresh :=
  (h.thInv i t hi).blt hb

theorem stepCfg_mono (c : Cfg) (e : Ev) :
    c.st.next ≤ (stepCfg c e).st.next ∧ c.st.fresh ≤ (stepCfg c e).st.fresh ∧
      ∀ ch, ch ∈ c.st.closedCh → ch ∈ (stepCfg c e).st.closedCh :=
  have hrefl := ⟨Int.le_refl c.st.next, Nat.le_refl c.st.fresh, fun ch (h : ch ∈ c.st.closedCh) => h⟩
  stepCfg_ind (motive := fun c' => c.st.next ≤ c'.st.next ∧ c.st.fresh ≤ c'.st.fresh ∧
      ∀ ch, ch ∈ c.st.closedCh → ch ∈ c'.st.closedCh) c e hrefl
    (fun _ _ _ _ _ _ hst => (stepTh_spec hst).mono) (fun _ _ _ _ => hrefl) (fun _ _ => hrefl)

theorem run_mono (c : Cfg) (evs : List Ev) :
    c.st.next ≤ (run c evs).st.next ∧ c.st.fresh ≤ (run c evs).st.fresh ∧
      ∀ ch, ch ∈ c.st.closedCh → ch ∈ (run c evs).st.closedCh := by
  induction evs generalizing c with
  | nil => exact ⟨Int.le_refl _, Nat.le_refl _, fun _ h => h⟩
  | cons e rest ih =>
    obtain ⟨a1, a2, a3⟩ := stepCfg_mono c e
    obtain ⟨b1, b2, b3⟩ := ih (stepCfg c e)
    exact ⟨Int.le_trans a1 b1, Nat.le_trans a2 b2, fun ch h => b3 ch (a3 ch h)⟩

theorem next_monotone_run (c : Cfg) (evs : List Ev) : c.st.next ≤ (run c evs).st.next :=
  (run_mono c evs).1

theorem run_append (c : Cfg) (evs evs' : List Ev) : run c (evs ++ evs') = run (run c evs) evs' := by
  induction evs generalizing c with
  | nil => rfl
  | cons e rest ih => exact ih _

theorem next_monotone_reach (n : Int) (evs evs' : List Ev) :
    (run (init n) evs).st.next ≤ (run (init n) (evs ++ evs')).st.next := by
  rw [run_append]
  exact next_monotone_run _ _

theorem fresh_monotone_run (c : Cfg) (evs : List Ev) : c.st.fresh ≤ (run c evs).st.fresh :=
  (run_mono c evs).2.1

/-- A closed signal channel stays closed. -/
theorem closed_monotone_run (c : Cfg) (evs : List Ev) {ch : Nat} (h : ch ∈ c.st.closedCh) :
    ch ∈ (run c evs).st.closedCh :=
  (run_mono c evs).2.2 ch h

/-- A signal channel becomes closed only by the `closeB` instruction of a `Set`/`Close`
thread whose local `b` is that channel: a parked waiter is never released for nothing. -/
theorem woken_only_by_set_close (c : Cfg) (e : Ev) (ch : Nat)
    (hin : ch ∈ (stepCfg c e).st.closedCh) (hnot : ch ∉ c.st.closedCh) :
    ∃ (i : Nat) (t : Th), e = .step i ∧ c.ths[i]? = some t ∧
      (t.kind = .close ∨ ∃ n, t.kind = .set n) ∧
      (progOf t.kind)[t.pc]? = some .closeB ∧ t.b = some ch ∧ t.done = false := by
  revert hin
  refine stepCfg_ind (motive := fun c' => ch ∈ c'.st.closedCh → _) c e (absurd · hnot) ?_
    (fun _ _ _ _ => (absurd · hnot)) (fun _ _ => (absurd · hnot))
  intro i t s' t' he hi hst hin
  have hS := stepTh_spec hst
  obtain ⟨hk, hpc, hb⟩ := hS.closed_change hin hnot
  exact ⟨i, t, he, hi, hk, hpc, hb, hS.not_done⟩

theorem parked_step (s : St) (t : Th) (off : Int) (ch : Nat) (hk : t.kind = .wait off)
    (hpc : t.pc = 6) (hb : t.b = some ch) (hd : t.done = false) :
    stepTh s t =
      if ch ∈ s.closedCh then some (s, { t with res := some .nil })
      else if t.ctxDone = true then some (s, { t with res := some .ctxErr })
      else none := by
  obtain ⟨kind, pc, b, ok, upd, cd, res⟩ := t
  dsimp only at hk hpc hb
  subst hk hpc hb
  cases res with
  | some r => cases hd
  | none =>
    -- `stepTh` at pc 6 evaluates to these branches; only its test is `contains`, not yet `∈`
    show (if s.closedCh.contains ch = true then _ else _) = _
    simp only [List.contains_iff_mem]

/-- A waiter at `selectWait` can move iff its channel is closed or its context ended. -/
theorem parked_enabled_iff (s : St) (t : Th) (off : Int) (ch : Nat) (hk : t.kind = .wait off)
    (hpc : t.pc = 6) (hb : t.b = some ch) (hd : t.done = false) :
    (stepTh s t).isSome = true ↔ ch ∈ s.closedCh ∨ t.ctxDone = true := by
  rw [parked_step s t off ch hk hpc hb hd]
  by_cases hcl : ch ∈ s.closedCh
  · rw [if_pos hcl]
    exact ⟨fun _ => .inl hcl, fun _ => rfl⟩
  by_cases hcd : t.ctxDone = true
  · rw [if_neg hcl, if_pos hcd]
    exact ⟨fun _ => .inr hcd, fun _ => rfl⟩
  · rw [if_neg hcl, if_neg hcd]
    exact ⟨nofun, fun h => h.elim (absurd · hcl) (absurd · hcd)⟩

/-- A `Wait(off)` that starts when `next > off` returns `nil` in its first step and does not
touch the shared state. -/
theorem immediate (s : St) (t : Th) (off : Int) (hk : t.kind = .wait off) (hpc : t.pc = 0)
    (hd : t.done = false) (h : s.next > off) :
    stepTh s t = some (s, { t with res := some .nil }) := by
  obtain ⟨kind, pc, b, ok, upd, cd, res⟩ := t
  cases hk
  cases hpc
  cases res with
  | some r => cases hd
  | none => exact (Step.w0_fast h).stepTh_eq

/-- The same for a freshly spawned call, at the level of configurations. -/
theorem immediate_cfg (c : Cfg) (i : Nat) (off : Int) (hi : c.ths[i]? = some { kind := .wait off })
    (h : c.st.next > off) :
    stepCfg c (.step i) = ⟨c.st, c.ths.set i { kind := .wait off, res := some .nil }⟩ :=
  stepCfg_step_some hi (immediate c.st _ off rfl rfl rfl h)

/-- `Wait` after `Close` (and not already satisfied) never blocks: run alone it returns
`ErrClosed` in three steps and leaves the shared state alone. -/
theorem wait_after_close_fails (s : St) (off : Int) (hb : s.barrier = .closed)
    (hn : ¬ s.next > off) :
    run ⟨s, [{ kind := .wait off }]⟩ [.step 0, .step 0, .step 0]
      = ⟨s, [{ kind := .wait off, pc := 2, res := some .errClosed }]⟩ := by
  have hn' : ¬ off < s.next := hn
  simp [run, stepCfg, stepTh, Th.done, progOf, waitProg, hb, hn']

/-- A parked waiter whose context ended (and whose channel is still open) returns `ctx.Err()`. -/
theorem cancel_returns (s : St) (t : Th) (off : Int) (ch : Nat) (hk : t.kind = .wait off)
    (hpc : t.pc = 6) (hb : t.b = some ch) (hd : t.done = false) (hc : t.ctxDone = true)
    (hnc : ch ∉ s.closedCh) : stepTh s t = some (s, { t with res := some .ctxErr }) := by
  rw [parked_step s t off ch hk hpc hb hd, if_neg hnc, if_pos hc]

theorem enabled_eq {c : Cfg} {i : Nat} {t : Th} (hi : c.ths[i]? = some t) :
    enabled c i = (stepTh c.st t).isSome := by
  simp [enabled, hi]

/-- The token holder itself is never blocked. -/
theorem holder_enabled' {c : Cfg} (hinv : TokenInv c) {i : Nat} {t : Th}
    (hi : c.ths[i]? = some t) (hw : inWindow t = true) : enabled c i = true := by
  rw [enabled_eq hi]
  exact inWindow_enabled (hinv.thInv i t hi) hw (token_window hinv hi hw)

theorem holder_enabled (n : Int) (evs : List Ev) (i : Nat) (t : Th)
    (hi : (run (init n) evs).ths[i]? = some t) (hw : inWindow t = true) :
    enabled (run (init n) evs) i = true :=
  holder_enabled' (tokenInv_run n evs) hi hw

/-- The auxiliary invariant: every channel a thread knows is closed or is the current token
channel (in the barrier, or in the local `b` of the unique token holder). -/
theorem channel_current_or_closed (n : Int) (evs : List Ev) (i : Nat) (t : Th) (ch : Nat)
    (hi : (run (init n) evs).ths[i]? = some t) (hb : t.b = some ch) :
    ch ∈ (run (init n) evs).st.closedCh ∨ (run (init n) evs).st.barrier = .full ch ∨
      ∃ (j : Nat) (u : Th), (run (init n) evs).ths[j]? = some u ∧ inWindow u = true ∧
        u.b = some ch :=
  (tokenInv_run n evs).cur i t ch hi hb

/-- The no-lost-wakeup core. A waiter `Wait(off)` that has executed its probe with
`updated = false` (pc ∈ {4,5,6}) and holds channel `ch`: if a `Set` moved `next` past `off`
after the probe, then `ch` is already closed, or the setter that holds `ch` has not yet
executed its `close(b)` — and will, since the token holder is never blocked. -/
theorem parked_not_passed (n : Int) (evs : List Ev) (i : Nat) (t : Th) (off : Int) (ch : Nat)
    (hi : (run (init n) evs).ths[i]? = some t) (hk : t.kind = .wait off)
    (hpc : t.pc = 4 ∨ t.pc = 5 ∨ t.pc = 6) (hd : t.done = false) (hu : t.upd = false)
    (hb : t.b = some ch) :
    ch ∈ (run (init n) evs).st.closedCh ∨ (run (init n) evs).st.next ≤ off ∨
      ∃ (j : Nat) (t' : Th), (run (init n) evs).ths[j]? = some t' ∧ (∃ m, t'.kind = .set m) ∧
        t'.b = some ch ∧ (t'.pc = 1 ∨ t'.pc = 2 ∨ t'.pc = 3) ∧ t'.done = false := by
  have hp : PastProbe t off := ⟨hk, by omega, hd, hu⟩
  rcases (tokenInv_run n evs).probed i t off ch hi hp hb with h | h | ⟨j, u, hj, hm⟩
  · exact Or.inl h
  · exact Or.inr (Or.inl h)
  · obtain ⟨hkind, hub, h1, h3, hud⟩ := hm
    exact Or.inr (Or.inr ⟨j, u, hj, hkind, hub, by omega, hud⟩)

/-- No lost wake-up, quiescent form: if no `Set`/`Close` call is mid-flight and `next` has
passed `off`, a waiter parked at `selectWait` is enabled (its channel is closed, so its next
step returns `nil`). -/
theorem no_lost_wakeup (n : Int) (evs : List Ev) (i : Nat) (t : Th) (off : Int)
    (hi : (run (init n) evs).ths[i]? = some t) (hk : t.kind = .wait off) (hpc : t.pc = 6)
    (hd : t.done = false)
    (hquiet : ∀ (j : Nat) (u : Th), (run (init n) evs).ths[j]? = some u → u.done = false →
      (∃ o, u.kind = .wait o) ∨ u.pc = 0)
    (hnext : (run (init n) evs).st.next > off) :
    enabled (run (init n) evs) i = true ∧
      ∃ ch, t.b = some ch ∧ ch ∈ (run (init n) evs).st.closedCh ∧
        stepTh (run (init n) evs).st t = some ((run (init n) evs).st, { t with res := some .nil }) := by
  have hinv := tokenInv_run n evs
  have hti := hinv.thInv i t hi
  have hok : t.ok = true := hti.ok_of_post (by rw [hk, hpc]; simp [recvPc])
  obtain ⟨ch, hb⟩ := hti.b_of_ok hok
  have hu : t.upd = false := by
    obtain ⟨_, _, _, _, _, hupd⟩ := hti
    exact hupd off hk hpc
  have hcl : ch ∈ (run (init n) evs).st.closedCh := by
    rcases parked_not_passed n evs i t off ch hi hk (Or.inr (Or.inr hpc)) hd hu hb with
      h | h | ⟨j, u, hj, ⟨m, hm⟩, _, hupc, hud⟩
    · exact h
    · exact absurd hnext (Int.not_lt.mpr h)
    · rcases hquiet j u hj hud with ⟨o, ho⟩ | h0
      · rw [hm] at ho
        cases ho
      · omega
  have hstep := parked_step (run (init n) evs).st t off ch hk hpc hb hd
  rw [if_pos hcl] at hstep
  refine ⟨?_, ch, hb, hcl, hstep⟩
  rw [enabled_eq hi, hstep]
  rfl

theorem setterMid_inWindow {s : St} {u : Th} {ch : Nat} (hi : ThInv s u) (hm : SetterMid u ch) :
    inWindow u = true := by
  obtain ⟨⟨m, hk⟩, hb, h1, h3, hd⟩ := hm
  have hok : u.ok = true := by rw [hi.ok_eq, hb]; rfl
  simp [inWindow, hd, hok, hk]
  omega

theorem setterMid_step {c : Cfg} (hinv : TokenInv c) {j : Nat} {u : Th} {ch : Nat}
    (hj : c.ths[j]? = some u) (hm : SetterMid u ch) :
    ch ∈ (stepCfg c (.step j)).st.closedCh ∨
      ∃ u', (stepCfg c (.step j)).ths[j]? = some u' ∧ SetterMid u' ch ∧ u'.pc = u.pc + 1 := by
  have hti := hinv.thInv j u hj
  have hw := setterMid_inWindow hti hm
  have hen := inWindow_enabled hti hw (token_window hinv hj hw)
  cases hst : stepTh c.st u with
  | none =>
    rw [hst] at hen
    cases hen
  | some p =>
    obtain ⟨s', u'⟩ := p
    rw [stepCfg_step_some hj hst]
    rcases (stepTh_spec hst).setterMid_progress hti hm with ⟨hm', hpc⟩ | hcl
    · exact Or.inr ⟨u', get_set_self hj, hm', hpc⟩
    · exact Or.inl hcl

/-- `k` own steps take a mid-flight setter past its `closeB` (pc 3). -/
theorem setterMid_run {c : Cfg} (hinv : TokenInv c) {j : Nat} {u : Th} {ch : Nat}
    (hj : c.ths[j]? = some u) (hm : SetterMid u ch) (k : Nat) (hk : 4 ≤ u.pc + k) :
    ch ∈ (run c (List.replicate k (.step j))).st.closedCh := by
  induction k generalizing c u with
  | zero =>
    obtain ⟨_, _, _, h3, _⟩ := hm
    omega
  | succ k ih =>
    rcases setterMid_step hinv hj hm with h | ⟨u', hj', hm', hpc⟩
    · exact closed_monotone_run (stepCfg c (.step j)) _ h
    · exact ih (tokenInv_step c (.step j) hinv) hj' hm' (by omega)

/-- The setter of `parked_not_passed` is never blocked, and its next three steps, taken in a row
from any reachable configuration, close the channel. -/
theorem setter_closes (n : Int) (evs : List Ev) (j : Nat) (u : Th) (ch : Nat)
    (hj : (run (init n) evs).ths[j]? = some u) (hm : SetterMid u ch) :
    enabled (run (init n) evs) j = true ∧
      ch ∈ (run (init n) (evs ++ [.step j, .step j, .step j])).st.closedCh := by
  have hinv := tokenInv_run n evs
  refine ⟨holder_enabled' hinv hj (setterMid_inWindow (hinv.thInv j u hj) hm), ?_⟩
  -- the three steps in the form `setterMid_run` speaks of (left to the unifier, it unfolds `run` instead)
  rw [run_append, show [Ev.step j, .step j, .step j] = List.replicate 3 (.step j) from rfl]
  exact setterMid_run hinv hj hm 3 (Nat.add_le_add_right hm.2.2.1 3)

/-- In every reachable configuration, if some call is unfinished and is not a legitimately
parked waiter, then some thread can take a step. -/
theorem no_deadlock (n : Int) (evs : List Ev) (i : Nat) (t : Th)
    (hi : (run (init n) evs).ths[i]? = some t) (hd : t.done = false)
    (hnp : ¬ Parked (run (init n) evs).st t) :
    ∃ j, enabled (run (init n) evs) j = true := by
  have hinv := tokenInv_run n evs
  cases hst : stepTh (run (init n) evs).st t with
  | some p => exact ⟨i, by rw [enabled_eq hi, hst]; rfl⟩
  | none =>
    rcases stepTh_none hst hd (hinv.thInv i t hi) with ⟨_, hemp⟩ | ⟨hw, c, hfull⟩ | hp
    · -- waiting for the token: its holder is enabled
      obtain ⟨j, u, hj, hw⟩ := hinv.exists_holder hemp
      exact ⟨j, holder_enabled' hinv hj hw⟩
    · -- a holder facing a full barrier: impossible
      cases (hinv.window_empty hi hw).symm.trans hfull
    · exact absurd hp hnp

/-- `Wait(5)` on a notifier at 0 parks; `Set(10)` runs to completion; the waiter wakes. -/
def demoPark : List Ev :=
  [.spawn (.wait 5), .step 0, .step 0, .step 0, .step 0, .step 0, .step 0]

def demoSet : List Ev :=
  [.spawn (.set 10), .step 1, .step 1, .step 1, .step 1, .step 1, .step 1]

example :
    -- the waiter is parked on channel 0 and blocked
    (run (init 0) demoPark).ths[0]? =
        some { kind := .wait 5, pc := 6, b := some 0, ok := true } ∧
      enabled (run (init 0) demoPark) 0 = false ∧
    -- the setter finishes: next = 10, channel 0 closed, fresh channel 1 in the barrier
    (run (init 0) (demoPark ++ demoSet)).st =
        { next := 10, barrier := .full 1, closedCh := [0], fresh := 2 } ∧
      (run (init 0) (demoPark ++ demoSet)).ths[1]? =
        some { kind := .set 10, pc := 5, b := some 0, ok := true, res := some .none_ } ∧
    -- the waiter is enabled again and returns nil
      enabled (run (init 0) (demoPark ++ demoSet)) 0 = true ∧
      (run (init 0) (demoPark ++ demoSet ++ [.step 0])).ths[0]? =
        some { kind := .wait 5, pc := 6, b := some 0, ok := true, res := some .nil } := by
  decide +kernel

/-- A cancelled waiter returns `ctx.Err()`; a `Wait` after `Close` returns `ErrClosed`. -/
example :
    (run (init 0) (demoPark ++ [.cancel 0, .step 0])).ths[0]? =
        some { kind := .wait 5, pc := 6, b := some 0, ok := true, ctxDone := true,
               res := some .ctxErr } ∧
      (run (init 0) [.spawn .close, .step 0, .step 0, .step 0, .step 0, .step 0,
          .spawn (.wait 5), .step 1, .step 1, .step 1]).ths[1]? =
        some { kind := .wait 5, pc := 2, res := some .errClosed } := by
  decide +kernel

end Klev.Notify

#print axioms Klev.Notify.stepTh_iff_step
#print axioms Klev.Notify.tokenInv_init
#print axioms Klev.Notify.tokenInv_step
#print axioms Klev.Notify.tokenInv_run
#print axioms Klev.Notify.no_panic
#print axioms Klev.Notify.token_unique
#print axioms Klev.Notify.token_full
#print axioms Klev.Notify.token_empty
#print axioms Klev.Notify.token_closed
#print axioms Klev.Notify.token_window
#print axioms Klev.Notify.local_lt_fresh
#print axioms Klev.Notify.stepCfg_mono
#print axioms Klev.Notify.run_mono
#print axioms Klev.Notify.next_monotone_run
#print axioms Klev.Notify.next_monotone_reach
#print axioms Klev.Notify.fresh_monotone_run
#print axioms Klev.Notify.closed_monotone_run
#print axioms Klev.Notify.no_deadlock
#print axioms Klev.Notify.holder_enabled
#print axioms Klev.Notify.channel_current_or_closed
#print axioms Klev.Notify.parked_not_passed
#print axioms Klev.Notify.no_lost_wakeup
#print axioms Klev.Notify.setter_closes
#print axioms Klev.Notify.woken_only_by_set_close
#print axioms Klev.Notify.parked_enabled_iff
#print axioms Klev.Notify.parked_step
#print axioms Klev.Notify.immediate
#print axioms Klev.Notify.immediate_cfg
#print axioms Klev.Notify.wait_after_close_fails
#print axioms Klev.Notify.cancel_returns
