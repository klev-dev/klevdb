/-
The sequential specification of the lock-discipline model (`Klev/Conc.lean`, `seqStep`) is the
content semantics of the L1 operations: what `Log.publish` and `Log.delete` do to the abstract
content `abs l` is one `seqStep` (for Delete: with the legal choice "what it reported"). Together
with `linearizable` this reads: every concurrent execution of the discipline has the results and
the content of a sequential run of the real (modelled) operations.
-/
import Klev.Proofs.ConcProofs
import Klev.Proofs.Delete
import Klev.Proofs.Publish
namespace Klev.Conc
open Klev

def toVis (s : Spec) : Vis := ⟨s.live, s.next⟩

theorem stamp_eq_stampSpec (n : Int) (b : Batch) : stamp n b = Spec.stampSpec n b := by
  induction b generalizing n with
  | nil => rfl
  | cons x xs ih => obtain ⟨t, k, v⟩ := x; simp only [stamp, Spec.stampSpec, ih]

/-- Publish on a read-write log is one sequential step of the specification. -/
theorem publish_refines (l : Log) (hinv : Klev.Inv l) (hrw : l.opts.readonly = false) (b : Batch) :
    (l.publish b).2 = .ok ((abs l).next + b.length) ∧
    seqStep (toVis (abs l)) (.publish b) [] =
      (toVis (abs (l.publish b).1), .next ((abs l).next + b.length)) := by
  obtain ⟨_, hr, ha⟩ := publish_rw l hinv hrw b
  exact ⟨hr, by simp only [seqStep, toVis, stamp_eq_stampSpec, ha]⟩

/-- Delete on a read-write log that reports `del` is one sequential step of the specification with the
legal choice `del` (what it reported was live and requested). -/
theorem delete_refines (l : Log) (hinv : Klev.Inv l) (hrw : l.opts.readonly = false) (offs : List Int)
    (del : List Msg) (size : Int) (h : (l.delete offs).2 = .ok (del, size)) :
    LegalChoice (toVis (abs l)) (.delete offs) del ∧
    seqStep (toVis (abs l)) (.delete offs) del = (toVis (abs (l.delete offs).1), .deleted del) := by
  have hd := (delete_step l hinv offs).2
  rw [hrw, h] at hd
  obtain ⟨hsub, hreq, hl, hn, _⟩ := hd.of_ok
  exact ⟨fun m hm => ⟨hsub.subset hm, hreq m hm⟩,
    by simp only [seqStep, toVis, hl, hn, Spec.removeAll]⟩

end Klev.Conc

#print axioms Klev.Conc.publish_refines
#print axioms Klev.Conc.delete_refines
