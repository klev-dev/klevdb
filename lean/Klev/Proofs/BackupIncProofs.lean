/-
Repeated backup into the same directory (C20).

While the source has only been appended to (`Extends`), a file of the target that has the same
size as the source's file *is* the source's file, so a backup over the previous backup gives
exactly the source's files — whichever same-size files the copy skips (`backup_repeat`, for every
oracle). Publishes only append (`publishes_extends`), hence `backup_repeat_log`, and the result
opens to the source's content (`backup_repeat_opens_same`). Without the hypothesis the property is
false: a record replaced by another of the same size survives in the target
(`stale_file_survives`).
-/
import Klev.BackupInc
import Klev.Proofs.Backup
import Klev.Proofs.CrashCore
namespace Klev.BackupInc
open Klev Klev.Crash

/-- The segment `s` is the segment `t` after appends only: same base, same format, the records
extended at the end, and the index file — if `t` had one — still there in the same format,
extended at the end by as many items. (An index file may have appeared.) -/
def SegExt (t s : SegDisk) : Prop :=
  s.base = t.base ∧ s.ver = t.ver ∧ ∃ e, s.recs = t.recs ++ e ∧
    match t.idxf with
    | none => True
    | some g => ∃ f more, s.idxf = some f ∧ f.ver = g.ver ∧ f.items = g.items ++ more ∧
        more.length = e.length

/-- `b` is `a` after appends only: every segment of `a` is still there under its base, in the same
format, with its records extended at the end and its index file (if it had one) extended at the
end by as many items; index files may have appeared; new segments only after the old ones. -/
def Extends (a b : List SegDisk) : Prop :=
  (∀ t ∈ a, ∃ s ∈ b, SegExt t s) ∧
  (∀ s ∈ b, (∃ t ∈ a, t.base = s.base) ∨ (∀ t ∈ a, t.base < s.base))

theorem SegExt.refl (t : SegDisk) : SegExt t t := by
  refine ⟨rfl, rfl, [], by simp, ?_⟩
  cases h : t.idxf with
  | none => trivial
  | some g => exact ⟨g, [], rfl, rfl, by simp, rfl⟩

theorem SegExt.trans {t s u : SegDisk} (h1 : SegExt t s) (h2 : SegExt s u) : SegExt t u := by
  obtain ⟨hb1, hv1, e1, hr1, hi1⟩ := h1
  obtain ⟨hb2, hv2, e2, hr2, hi2⟩ := h2
  refine ⟨hb2.trans hb1, hv2.trans hv1, e1 ++ e2, by rw [hr2, hr1, List.append_assoc], ?_⟩
  cases hg : t.idxf with
  | none => trivial
  | some g =>
    rw [hg] at hi1
    obtain ⟨f, m1, hsf, hfv, hfi, hl1⟩ := hi1
    rw [hsf] at hi2
    obtain ⟨f', m2, huf, hfv', hfi', hl2⟩ := hi2
    refine ⟨f', m1 ++ m2, huf, hfv'.trans hfv, by rw [hfi', hfi, List.append_assoc], ?_⟩
    simp only [List.length_append, hl1, hl2]

theorem Extends.refl (a : List SegDisk) : Extends a a :=
  ⟨fun t ht => ⟨t, ht, SegExt.refl t⟩, fun s hs => Or.inl ⟨s, hs, rfl⟩⟩

theorem Extends.trans {a b c : List SegDisk} (h1 : Extends a b) (h2 : Extends b c) :
    Extends a c := by
  refine ⟨?_, ?_⟩
  · intro t ht
    obtain ⟨s, hs, hts⟩ := h1.1 t ht
    obtain ⟨u, hu, hsu⟩ := h2.1 s hs
    exact ⟨u, hu, hts.trans hsu⟩
  · intro u hu
    rcases h2.2 u hu with ⟨s, hs, hsb⟩ | hlt
    · rcases h1.2 s hs with ⟨t, ht, htb⟩ | hlt
      · exact Or.inl ⟨t, ht, htb.trans hsb⟩
      · exact Or.inr (fun t ht => by rw [← hsb]; exact hlt t ht)
    · refine Or.inr (fun t ht => ?_)
      obtain ⟨s, hs, hts⟩ := h1.1 t ht
      rw [← hts.1]; exact hlt s hs

theorem extends_snoc (a : List SegDisk) (n : SegDisk) (h : ∀ t ∈ a, t.base < n.base) :
    Extends a (a ++ [n]) := by
  refine ⟨fun t ht => ⟨t, List.mem_append_left _ ht, SegExt.refl t⟩, ?_⟩
  intro s hs
  rcases List.mem_append.mp hs with hs | hs
  · exact Or.inl ⟨s, hs, rfl⟩
  · simp only [List.mem_singleton] at hs
    subst hs; exact Or.inr h

theorem extends_last (pre : List SegDisk) (x y : SegDisk) (h : SegExt x y) :
    Extends (pre ++ [x]) (pre ++ [y]) := by
  refine ⟨?_, ?_⟩
  · intro t ht
    rcases List.mem_append.mp ht with ht | ht
    · exact ⟨t, List.mem_append_left _ ht, SegExt.refl t⟩
    · simp only [List.mem_singleton] at ht
      subst ht; exact ⟨y, by simp, h⟩
  · intro s hs
    rcases List.mem_append.mp hs with hs | hs
    · exact Or.inl ⟨s, List.mem_append_left _ hs, rfl⟩
    · simp only [List.mem_singleton] at hs
      subst hs; exact Or.inl ⟨x, by simp, h.1.symm⟩

theorem rollover_extends (l : Log) (hinv : Inv l) (hrw : l.opts.readonly = false) :
    Extends l.disk l.rollover.disk := by
  obtain ⟨h, hl⟩ := inv_getLast l hinv
  rw [rollover_disk_eq l h hl]
  cases hroll : needsRollover l.opts h with
  | true =>
    exact extends_snoc _ _
      (nh_shape l hinv hrw _ _ (disk_snoc hl) (needsRollover_recs hroll) (nhD l) rfl rfl).2.2
  | false => rw [if_neg (by simp), List.append_nil]; exact Extends.refl _

theorem append_extends_disk (l : Log) (hinv : Inv l)
    (batch : List (Int × List UInt8 × List UInt8)) :
    Extends l.disk (l.append batch).1.disk := by
  obtain ⟨h, hl⟩ := inv_getLast l hinv
  rw [append_disk hl, disk_snoc hl]
  refine extends_last _ _ _ ⟨rfl, rfl, _, rfl, ?_⟩
  show match h.idxf with | none => True | some g => _
  cases h.idxf with
  | none => trivial
  | some g => exact ⟨_, _, rfl, rfl, rfl, (stamp_lengths _ _ _ _ _ _).symm⟩

theorem publish_extends (l : Log) (hinv : Inv l) (hrw : l.opts.readonly = false)
    (batch : List (Int × List UInt8 × List UInt8)) :
    Extends l.disk (l.publish batch).1.disk ∧ Inv (l.publish batch).1 ∧
      (l.publish batch).1.opts = l.opts := by
  refine ⟨?_, (publish_step l hinv batch).1, publish_opts l batch⟩
  rw [publish_eq hrw]
  exact (rollover_extends l hinv hrw).trans
    (append_extends_disk l.rollover (rollover_spec l hinv hrw).1 batch)

theorem publishes_spec (bs : List (List (Int × List UInt8 × List UInt8))) :
    ∀ (l : Log), Inv l → l.opts.readonly = false →
      Extends l.disk (publishes l bs).disk ∧ Inv (publishes l bs) ∧ (publishes l bs).opts = l.opts := by
  induction bs with
  | nil => intro l hinv _; exact ⟨Extends.refl _, hinv, rfl⟩
  | cons b bs ih =>
    intro l hinv hrw
    obtain ⟨he, hinv1, hopts⟩ := publish_extends l hinv hrw b
    obtain ⟨he2, hinv2, hopts2⟩ := ih (l.publish b).1 hinv1 (by rw [hopts]; exact hrw)
    exact ⟨he.trans he2, hinv2, hopts2.trans hopts⟩

theorem publishes_extends (l : Log) (hinv : Inv l) (hrw : l.opts.readonly = false)
    (bs : List (List (Int × List UInt8 × List UInt8))) :
    Extends l.disk (publishes l bs).disk ∧ Inv (publishes l bs) :=
  ⟨(publishes_spec bs l hinv hrw).1, (publishes_spec bs l hinv hrw).2.1⟩

theorem publishes_opts (l : Log) (hinv : Inv l) (hrw : l.opts.readonly = false)
    (bs : List (List (Int × List UInt8 × List UInt8))) : (publishes l bs).opts = l.opts :=
  (publishes_spec bs l hinv hrw).2.2

theorem sizeFrom_eq_nil (v : Ver) (e : List Msg) (p : Int) (h : sizeFrom v p e = p) : e = [] := by
  cases e with
  | nil => rfl
  | cons m e =>
    have := sizeFrom_ge v e (p + recSize v m)
    have := recSize_pos v m
    simp only [sizeFrom] at h; omega

theorem logSize_append_eq (v : Ver) (r e : List Msg) (h : logSize v r = logSize v (r ++ e)) :
    e = [] := by
  unfold logSize at h
  rw [sizeFrom_append] at h
  exact sizeFrom_eq_nil v e _ h.symm

theorem params_size_pos (p : Params) : 0 < p.size := by
  obtain ⟨t, k⟩ := p
  cases t <;> cases k <;> decide

theorem idxSize_append_eq (p : Params) (v : Ver) (its more : List Item)
    (h : idxSize p ⟨v, its⟩ = idxSize p ⟨v, its ++ more⟩) : more = [] := by
  unfold idxSize at h
  rw [List.length_append] at h
  -- cancel the header, then the item size
  have hlen : (its.length : Int) = ↑(its.length + more.length) :=
    Int.eq_of_mul_eq_mul_left (Int.ne_of_gt (params_size_pos p)) (Int.add_left_cancel h)
  exact List.eq_nil_of_length_eq_zero (by omega)

theorem copyIdx_ext (p : Params) (o : Oracle) (sb : Int) (f g : IdxFile) (more : List Item)
    (hfv : f.ver = g.ver) (hfi : f.items = g.items ++ more) :
    (if idxSize p g = idxSize p f ∧ o.skipIdx sb = true then some g else some f) = some f := by
  obtain ⟨fv, fi⟩ := f
  obtain ⟨gv, gi⟩ := g
  dsimp only at hfv hfi
  subst hfv hfi
  by_cases hc : idxSize p ⟨fv, gi⟩ = idxSize p ⟨fv, gi ++ more⟩ ∧ o.skipIdx sb = true
  · rw [if_pos hc, idxSize_append_eq p fv gi more hc.1, List.append_nil]
  · rw [if_neg hc]

theorem copySeg_ext (p : Params) (o : Oracle) (t s : SegDisk) (h : SegExt t s) :
    copySeg p o s (some t) = s := by
  obtain ⟨hb, hv, e, hr, hi⟩ := h
  obtain ⟨sb, sv, sr, si⟩ := s
  obtain ⟨tb, tv, tr, ti⟩ := t
  dsimp only at hb hv hr hi
  subst hb hv hr
  have hlog : (if logSize sv tr = logSize sv (tr ++ e) ∧ o.skipLog sb = true then (sv, tr)
      else (sv, tr ++ e)) = (sv, tr ++ e) := by
    by_cases hc : logSize sv tr = logSize sv (tr ++ e) ∧ o.skipLog sb = true
    · rw [if_pos hc, logSize_append_eq sv tr e hc.1, List.append_nil]
    · rw [if_neg hc]
  unfold copySeg
  dsimp only
  rw [hlog]
  cases si with
  | none => rfl
  | some f =>
    cases ti with
    | none => rfl
    | some g =>
      dsimp only at hi
      obtain ⟨f', more, hf, hfv, hfi, _⟩ := hi
      simp only [Option.some.injEq] at hf
      subst hf
      dsimp only
      rw [copyIdx_ext p o sb f g more hfv hfi]

theorem copySeg_none (p : Params) (o : Oracle) (s : SegDisk) : copySeg p o s none = s := rfl

/-- Only the first half of `Extends` is used: where `b` has new segments does not matter. -/
theorem backup_repeat_of_segExt (p : Params) (o : Oracle) (a b : List SegDisk)
    (h : ∀ t ∈ a, ∃ s ∈ b, SegExt t s) (hb : b.Pairwise (fun s t => s.base < t.base)) :
    backupInto p o b a = b := by
  have hstale : a.filter (fun t => !(b.any (fun s => s.base == t.base))) = [] := by
    rw [List.filter_eq_nil_iff]
    intro t ht
    obtain ⟨s, hs, hts⟩ := h t ht
    simp only [Bool.not_eq_true', Bool.not_eq_false, List.any_eq_true, beq_iff_eq]
    exact ⟨s, hs, hts.1⟩
  have hcopied : b.map (fun s => copySeg p o s (a.find? (fun t => t.base == s.base))) = b := by
    refine (List.map_congr_left fun s hs => ?_).trans (List.map_id' b)
    cases hf : a.find? (fun t => t.base == s.base) with
    | none => rfl
    | some t =>
      have hta : t ∈ a := List.mem_of_find?_eq_some hf
      have htb : t.base = s.base := by
        have := List.find?_some hf
        simpa using this
      obtain ⟨s', hs', hts'⟩ := h t hta
      have : s' = s := base_inj (hb.imp Int.ne_of_lt) hs' hs (hts'.1.trans htb)
      subst this
      exact copySeg_ext p o t s' hts'
  unfold backupInto
  dsimp only
  rw [hstale, hcopied]
  rfl

/-- **Repeated backup**: over the previous backup `a`, the source `b` having only been appended
to since, a backup gives exactly the source's files. -/
theorem backup_repeat (p : Params) (o : Oracle) (a b : List SegDisk) (h : Extends a b)
    (hb : b.Pairwise (fun s t => s.base < t.base)) :
    backupInto p o b a = b :=
  backup_repeat_of_segExt p o a b h.1 hb

theorem backup_repeat_shape (p : Params) (o : Oracle) (a b : List SegDisk) (h : Extends a b)
    (hb : ShapeOK (shapeD b)) : backupInto p o b a = b :=
  backup_repeat p o a b h (bases_increasing hb)

theorem backup_first (p : Params) (o : Oracle) (d : List SegDisk) : backupInto p o d [] = d := by
  unfold backupInto
  simp only [List.find?_nil, List.filter_nil, List.foldl_nil]
  exact List.map_id'' (fun _ => rfl) d

theorem backup_repeat_log (l : Log) (hinv : Inv l) (hrw : l.opts.readonly = false)
    (bs : List (List (Int × List UInt8 × List UInt8))) (o : Oracle) :
    backupInto l.opts.params o (publishes l bs).disk l.disk = (publishes l bs).disk := by
  obtain ⟨he, hinv'⟩ := publishes_extends l hinv hrw bs
  exact backup_repeat_shape _ o _ _ he (disk_of_inv _ hinv').1.shape

theorem backup_repeat_clean (l : Log) (hinv : Inv l) (hrw : l.opts.readonly = false)
    (bs : List (List (Int × List UInt8 × List UInt8))) (o : Oracle) :
    DiskOK (backupInto l.opts.params o (publishes l bs).disk l.disk) ∧
      absDisk (backupInto l.opts.params o (publishes l bs).disk l.disk) = abs (publishes l bs) := by
  rw [backup_repeat_log l hinv hrw bs o]
  exact backup_clean _ (publishes_extends l hinv hrw bs).2

theorem backup_repeat_opens_same (l : Log) (hinv : Inv l) (hrw : l.opts.readonly = false)
    (bs : List (List (Int × List UInt8 × List UInt8))) (o : Oracle) (oo : OpenOpts) (l' : Log)
    (h : Log.open (backupInto l.opts.params o (publishes l bs).disk l.disk) oo = .ok l') :
    Inv l' ∧ abs l' = abs (publishes l bs) := by
  rw [backup_repeat_log l hinv hrw bs o] at h
  exact backup_opens_same (publishes l bs) (publishes_extends l hinv hrw bs).2 oo l' h

/-! ### the format of a segment does not change on publish

`Log.rollover` leaves the old head as it is and `Log.append` keeps the head's `ver` and its index
file's `ver`; `openWriter` — the only place where an empty V1 file gets the header of
`NewSegmentsVersion` — runs on the *new* segment of a rollover and inside `Open`, not on an
existing segment during a publish. So no hypothesis on the format is needed. The corner, evaluated:
an empty V1 head with an empty V1 index under `nsv = v2` (a state `Open` never leaves, it satisfies
`Inv` all the same) stays V1 when published to. -/

def cornerL : Log :=
  { opts := { readonly := false, params := ⟨false, false⟩, autosync := false, rollover := 1000,
              nsv := .v2, keep := false },
    segs := [⟨0, .v1, [], some ⟨.v1, []⟩, some []⟩], wNextOff := 0, wNextTime := 0 }

example : (cornerL.publish [(10, [], [1])]).1.disk =
    [⟨0, .v1, [⟨0, 10, [], [1]⟩], some ⟨.v1, [⟨0, 0, 0, 0⟩]⟩⟩] := by decide +kernel

/-! ### the hypothesis matters

The source's record was replaced by another one of the same size (same base, same format): not an
append. A copy that skips same-size files leaves the stale file in the target. (The real rule
also compares modification times; the property is about sources that are only appended to.) -/

def skipAll : Oracle := ⟨fun _ => true, fun _ => true⟩
def copyAll : Oracle := ⟨fun _ => false, fun _ => false⟩

def staleA : List SegDisk := [⟨0, .v2, [⟨0, 10, [], [1]⟩], some ⟨.v2, [⟨0, 8, 0, 0⟩]⟩⟩]
def staleB : List SegDisk := [⟨0, .v2, [⟨0, 10, [], [2]⟩], some ⟨.v2, [⟨0, 8, 0, 0⟩]⟩⟩]

theorem stale_file_survives :
    backupInto ⟨false, false⟩ skipAll staleB staleA ≠ staleB ∧
    backupInto ⟨false, false⟩ skipAll staleB staleA = staleA ∧
    backupInto ⟨false, false⟩ copyAll staleB staleA = staleB := by decide +kernel

/-- Hence the two directories are not in the relation (bases of `staleB` are increasing). -/
theorem stale_not_extends : ¬ Extends staleA staleB := by
  intro h
  exact stale_file_survives.1 (backup_repeat _ skipAll staleA staleB h (by simp [staleB]))

/-! ### non-vacuity

Rollover at 50 bytes, times and keys indexed. The previous backup was taken of `exL`: segments
`0: [0, 1]` and `2: [2]`. Then two publishes: `[3, 4]` go to the head `2`, the next one rolls over
into a new segment `5: [5]`. The repeated backup with an oracle that skips whenever it may: both
files of segment 0 are skipped (same sizes 84 and 72), both files of segment 2 are copied (46 → 122
and 40 → 104 bytes), segment 5 is new. -/

def exOpts : OpenOpts :=
  { opts := { readonly := false, params := ⟨true, true⟩, autosync := false, rollover := 50,
              nsv := .v2, keep := false },
    check := false, recover := false, eager := false }

def exL0 : Log := okOr default (Log.open [] exOpts)
def exL : Log := publishes exL0 [[(10, [1], [1]), (11, [2], [2])], [(12, [3], [3])]]
def exBs : List (List (Int × List UInt8 × List UInt8)) :=
  [[(13, [4], [4]), (14, [5], [5])], [(15, [6], [6])]]

theorem exL0_open : Log.open [] exOpts = .ok exL0 := by decide +kernel

theorem exL_inv : Inv exL := (publishes_extends exL0 (open_nil_spec _ _ exL0_open).1 (by decide +kernel) _).2
theorem exL_rw : exL.opts.readonly = false := by decide +kernel

/-- The shapes and the file sizes (log, index) before and after. -/
example : exL.disk.map (fun s => (s.base, s.recs.map (·.off), logSize s.ver s.recs,
      s.idxf.map (idxSize exL.opts.params))) =
    [(0, [0, 1], 84, some 72), (2, [2], 46, some 40)] := by decide +kernel

example : (publishes exL exBs).disk.map (fun s => (s.base, s.recs.map (·.off), logSize s.ver s.recs,
      s.idxf.map (idxSize exL.opts.params))) =
    [(0, [0, 1], 84, some 72), (2, [2, 3, 4], 122, some 104), (5, [5], 46, some 40)] := by decide +kernel

/-- The repeated backup, evaluated: exactly the source's files … -/
example : backupInto exL.opts.params skipAll (publishes exL exBs).disk exL.disk =
    (publishes exL exBs).disk := by decide +kernel

/-- … which is the instance of the theorem (its hypotheses hold here) … -/
example : backupInto exL.opts.params skipAll (publishes exL exBs).disk exL.disk =
    (publishes exL exBs).disk := backup_repeat_log exL exL_inv exL_rw exBs skipAll

example : Extends exL.disk (publishes exL exBs).disk := (publishes_extends exL exL_inv exL_rw exBs).1

/-- … and the files of segment 0 really were skipped, not copied: with a marked record (same size)
in the previous backup's segment 0 and a marked item in its index, the marks are still there
afterwards, while segments 2 and 5 are the source's. -/
def exMarked : List SegDisk :=
  match exL.disk with
  | ⟨b, v, [m0, m1], some ⟨iv, [i0, i1]⟩⟩ :: rest =>
    ⟨b, v, [m0, { m1 with val := [99] }], some ⟨iv, [i0, { i1 with ts := 99 }]⟩⟩ :: rest
  | d => d

example : exMarked ≠ exL.disk := by decide +kernel

example : backupInto exL.opts.params skipAll (publishes exL exBs).disk exMarked =
    exMarked.take 1 ++ (publishes exL exBs).disk.drop 1 := by decide +kernel

example : backupInto exL.opts.params copyAll (publishes exL exBs).disk exMarked =
    (publishes exL exBs).disk := by decide +kernel

/-- The result opens (here: read-write, with Check) to the source's content. -/
example : ∃ l', Log.open (backupInto exL.opts.params skipAll (publishes exL exBs).disk exL.disk)
      { exOpts with check := true } = .ok l' ∧ (abs l').live.map (·.off) = [0, 1, 2, 3, 4, 5] ∧
      (abs l').next = 6 := by
  refine ⟨okOr default (Log.open (backupInto exL.opts.params skipAll (publishes exL exBs).disk exL.disk)
      { exOpts with check := true }), by decide +kernel, by decide +kernel, by decide +kernel⟩

end Klev.BackupInc

#print axioms Klev.BackupInc.publishes_extends
#print axioms Klev.BackupInc.publishes_opts
#print axioms Klev.BackupInc.backup_repeat
#print axioms Klev.BackupInc.backup_repeat_shape
#print axioms Klev.BackupInc.backup_first
#print axioms Klev.BackupInc.backup_repeat_log
#print axioms Klev.BackupInc.backup_repeat_clean
#print axioms Klev.BackupInc.backup_repeat_opens_same
#print axioms Klev.BackupInc.stale_file_survives
#print axioms Klev.BackupInc.stale_not_extends
