/-
`FirstAtBase` — the first record of every segment sits at the segment's base offset — is
an invariant of the API: it holds after Open on an empty directory and is kept by every
step, hence along every history. (`getByTime_ok` takes it as a hypothesis.)
-/
import Klev.Proofs.ExtSteps
import Klev.Proofs.TimeOK
namespace Klev

/-- The first record of the segment sits at the segment's base offset. -/
def FabSeg (s : Seg) : Prop := ∀ m, s.recs.head? = some m → m.off = s.base

theorem firstAtBase_iff_seg (l : Log) : FirstAtBase l ↔ ∀ s ∈ l.segs, FabSeg s := Iff.rfl

theorem firstAtBase_iff_shape (l : Log) :
    FirstAtBase l ↔ ∀ br ∈ shape l.segs, ∀ m, br.2.head? = some m → m.off = br.1 := by
  constructor
  · exact fun h => h.toShape
  · intro h s hs m hm
    exact h (s.base, s.recs) (List.mem_map.mpr ⟨s, hs, rfl⟩) m hm

theorem fabSeg_of_eq {s s' : Seg} (hb : s'.base = s.base) (hr : s'.recs = s.recs)
    (h : FabSeg s) : FabSeg s' := by
  intro m hm
  rw [hr] at hm
  rw [hb]
  exact h m hm

theorem fabSeg_nil {s : Seg} (hr : s.recs = []) : FabSeg s := by
  intro m hm
  rw [hr] at hm
  cases hm

/-- A rewritten segment is renamed to its lowest surviving offset, which is the offset of
its first record because the records are sorted. -/
theorem fabSeg_rewritten (p : Params) (s : Seg) (offs : List Int) (mv iv : Ver)
    (hs : s.recs.Pairwise (fun a b => a.off < b.off)) :
    FabSeg (rewrittenSeg p (rewrite p s offs mv iv)) :=
  fun _ hm => (minOff_head (hs.sublist List.filter_sublist) hm).symm

theorem stampSpec_head (b : List (Int × List UInt8 × List UInt8)) (off : Int) (m : Msg)
    (h : (Spec.stampSpec off b).head? = some m) : m.off = off := by
  cases b with
  | nil => simp [Spec.stampSpec] at h
  | cons x rest =>
    obtain ⟨t, k, vl⟩ := x
    simp only [Spec.stampSpec, List.head?_cons, Option.some.injEq] at h
    subst h; rfl

theorem Loads.fab {l l' : Log} (h : Loads l l') (hf : FirstAtBase l) : FirstAtBase l' :=
  (h.forall FabSeg l.opts
    (fun s hs => fabSeg_of_eq (loadIndex_base_recs l.opts s).1 (loadIndex_base_recs l.opts s).2.1 hs)
    rfl hf).1

theorem firstAtBase_step (l : Log) (hinv : Inv l) (hf : FirstAtBase l) (op : Op) :
    FirstAtBase (stepOp l op) := by
  cases op with
  | publish b =>
    refine publish_forall FabSeg l b hf (fabSeg_nil rfl) fun hro h hl hh m hm => ?_
    have hm' : (h.recs ++ (stamp l.opts.params h.ver l.wNextOff (logSize h.ver h.recs)
        l.wNextTime b).1).head? = some m := hm
    rw [stamp_fst] at hm'
    show m.off = h.base
    cases hrecs : h.recs with
    | nil =>
      -- an empty head starts at the writer's next offset, where the batch is stamped from
      obtain ⟨hinv1, _, ho1⟩ := rollover_spec l hinv hro
      have h2 := hinv1.wNextOff_eq (by rw [ho1]; exact hro) hl
      rw [hrecs] at h2 hm'
      rw [stampSpec_head b _ m hm', ← (rollover_facts l).2.1, h2]
      rfl
    | cons a as =>
      rw [hrecs] at hm'
      exact hh m (by rw [hrecs]; exact hm')
  | delete o =>
    refine delete_forall FabSeg l o hf (fabSeg_nil rfl) fun s hs mv _ => ?_
    have h1 := fabSeg_rewritten l.opts.params s o mv mv
      (hinv.shape.sorted (s.base, s.recs) (List.mem_map.mpr ⟨s, hs, rfl⟩))
    obtain ⟨hb, hr⟩ := openWriter_base_recs l.opts
      (rewrittenSeg l.opts.params (rewrite l.opts.params s o mv mv)) l.wNextTime
    exact ⟨h1, fabSeg_of_eq hb hr h1⟩
  | consume off mc => exact (consume_loads l off mc).fab hf
  | get off => exact (get_loads l off).fab hf
  | gc => exact gc_forall FabSeg l (fun s h => h) hf
  | reopen rm mig rec oo =>
    -- base and records go unchanged through close, migrate, recover and open
    refine reopen_forall (fun sd => FabSeg sd.toSeg) FabSeg l hinv rm mig rec oo hf hf
      (fun _ h => h) (fun p _ v sd => ?_) (fun p _ sd => ?_) (fun _ h => h) (fun sd => ?_)
    · exact fabSeg_of_eq (segMigrate_shape p v v sd).1 (segMigrate_shape p v v sd).2
    · exact fabSeg_of_eq (segRecover_shape p sd).1 (segRecover_shape p sd).2.1
    · exact fabSeg_of_eq (openWriter_base_recs oo.opts sd.toSeg 0).1
        (openWriter_base_recs oo.opts sd.toSeg 0).2

theorem firstAtBase_open_empty (oo : OpenOpts) :
    ∀ l0, Log.open [] oo = .ok l0 → FirstAtBase l0 := by
  intro l0 h s hs
  rw [open_nil h] at hs
  rw [List.mem_singleton.mp hs]
  cases oo.opts.readonly <;> exact fabSeg_nil rfl

/-- **`FirstAtBase` holds along every history.** -/
theorem firstAtBase_run (l : Log) (hinv : Inv l) (hf : FirstAtBase l) (ops : List Op) :
    FirstAtBase (runOps l ops) := by
  induction ops generalizing l with
  | nil => exact hf
  | cons op rest ih =>
    exact ih (stepOp l op) (step_inv_abs l hinv op).1 (firstAtBase_step l hinv hf op)

end Klev
