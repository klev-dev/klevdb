/-
`Stat` (`log.Stat`, `reader.Stat`): on a log satisfying `Inv` and `MemIdx` it counts exactly the
live messages and the segments, and only loads or rebuilds indexes.
-/
import Klev.Proofs.HelpersBase
namespace Klev

/-- The clause `Stat` needs beyond `Inv`. -/
def MemIdx (l : Log) : Prop := ∀ s ∈ l.segs, s.mem.isSome = true → s.idxf.isSome = true

def segFileSize (p : Params) (s : Seg) : Int :=
  logSize s.ver s.recs + (match s.idxf with | some f => idxSize p f | none => 0)

theorem segFileSize_some (p : Params) (s : Seg) (f : IdxFile) (hf : s.idxf = some f) :
    segFileSize p s = logSize s.ver s.recs + idxSize p f := by
  unfold segFileSize; rw [hf]

theorem loadIndex_idxf_some (o : Opts) (s : Seg) (h : s.mem.isSome = true → s.idxf.isSome = true) :
    (loadIndex o s).1.idxf.isSome = true := by
  rcases loadIndex_out o s with ⟨_, hm, he⟩ | ⟨_, he, _⟩ <;> rw [he]
  · exact h (by rw [hm]; rfl)
  · rfl

theorem loadIndex_memIdx (o : Opts) (s : Seg) (h : s.mem.isSome = true → s.idxf.isSome = true) :
    (loadIndex o s).1.mem.isSome = true → (loadIndex o s).1.idxf.isSome = true :=
  fun _ => loadIndex_idxf_some o s h

theorem loadIndex_mem_some (o : Opts) (s : Seg) : (loadIndex o s).1.mem.isSome = true := by
  rcases loadIndex_out o s with ⟨_, hm, he⟩ | ⟨_, he, _⟩ <;> rw [he]
  · rw [hm]; rfl
  · rfl

theorem withIndex_memIdx (l : Log) (i : Nat) (hmi : MemIdx l) {l1 : Log} {s : Seg} {its : List Item}
    {c : RCtx} (hw : withIndex l i = some (l1, s, its, c)) : MemIdx l1 :=
  (withIndex_forall (fun s => s.mem.isSome = true → s.idxf.isSome = true) l i
    (loadIndex_memIdx l.opts) hmi hw).1

/-- For a read-write log satisfying `Inv` the head satisfies the clause (`HeadOK`). -/
theorem memIdx_head (l : Log) (h : Inv l) (hro : l.opts.readonly = false) :
    ∀ hd, l.segs.getLast? = some hd → (hd.mem.isSome = true → hd.idxf.isSome = true) := by
  intro hd hl _
  obtain ⟨its, _, f, hf, _⟩ := (h.head hro hd hl).loaded
  rw [hf]; rfl

/-- `reader.Stat` on a segment satisfying the invariant and the clause. -/
theorem segStat_spec (o : Opts) (s : Seg) (hidx : IdxOK s)
    (hm : s.mem.isSome = true → s.idxf.isSome = true) :
    (∃ f, (segStat o s).1.idxf = some f) ∧
      (segStat o s).2 = some ⟨1, (s.recs.length : Int), segFileSize o.params (segStat o s).1⟩ ∧
      (segStat o s).1.base = s.base ∧ (segStat o s).1.ver = s.ver ∧
      (segStat o s).1.recs = s.recs ∧ IdxOK (segStat o s).1 ∧
      ((segStat o s).1.mem.isSome = true → (segStat o s).1.idxf.isSome = true) ∧
      (s.idxf.isSome = true → (segStat o s).1 = s) := by
  cases hf : s.idxf with
  | some f =>
    have hlen : f.items.length = s.recs.length := (hidx.idx f hf).length
    have h1 : segStat o s = (s, some ⟨1, (s.recs.length : Int), segFileSize o.params s⟩) := by
      unfold segStat
      simp only [hf]
      rw [segFileSize_some _ _ _ hf, hlen]
    rw [h1]
    exact ⟨⟨f, hf⟩, rfl, rfl, rfl, rfl, hidx, fun _ => by rw [hf]; rfl, fun _ => rfl⟩
  | none =>
    obtain ⟨hb, hv, hr, _, hok, _⟩ := loadIndex_spec o s hidx
    have hsome := loadIndex_idxf_some o s hm
    cases hg : (loadIndex o s).1.idxf with
    | none => rw [hg] at hsome; simp at hsome
    | some g =>
      have hlen : g.items.length = s.recs.length := by
        have := (hok.idx g hg).length
        rw [this, hr]
      have h1 : segStat o s = ((loadIndex o s).1,
          some ⟨1, (s.recs.length : Int), segFileSize o.params (loadIndex o s).1⟩) := by
        unfold segStat
        simp only [hf, hg]
        rw [segFileSize_some _ _ _ hg, hlen]
      rw [h1]
      exact ⟨⟨g, hg⟩, rfl, hb, hv, hr, hok, fun _ => by rw [hg]; rfl, fun h => by simp at h⟩

theorem flat_shape_cons (s : Seg) (rest : List Seg) :
    flat (shape (s :: rest)) = s.recs ++ flat (shape rest) := by
  simp [flat, shape]

theorem stat_go_spec (o : Opts) (segs : List Seg) (hidx : ∀ s ∈ segs, IdxOK s)
    (hmi : ∀ s ∈ segs, s.mem.isSome = true → s.idxf.isSome = true) :
    ∃ st, Log.stat.go o segs = (segs.map (fun s => (segStat o s).1), some st) ∧
      st.segments = (segs.length : Int) ∧ st.messages = ((flat (shape segs)).length : Int) ∧
      st.size = ((segs.map (fun s => (segStat o s).1)).map (segFileSize o.params)).sum := by
  induction segs with
  | nil =>
    refine ⟨⟨0, 0, 0⟩, ?_, rfl, rfl, rfl⟩
    unfold Log.stat.go; rfl
  | cons s rest ih =>
    obtain ⟨st2, hgo, hseg, hmsg, hsz⟩ := ih
      (fun t ht => hidx t (List.mem_cons_of_mem _ ht))
      (fun t ht => hmi t (List.mem_cons_of_mem _ ht))
    obtain ⟨_, h2, _⟩ := segStat_spec o s (hidx s List.mem_cons_self) (hmi s List.mem_cons_self)
    refine ⟨⟨1 + st2.segments, (s.recs.length : Int) + st2.messages,
      segFileSize o.params (segStat o s).1 + st2.size⟩, ?_, ?_, ?_, ?_⟩
    · unfold Log.stat.go
      simp only [h2, hgo, List.map_cons]
    · simp only [hseg, List.length_cons, Int.natCast_succ]; exact Int.add_comm _ _
    · rw [hmsg, flat_shape_cons, List.length_append, Int.natCast_add]
    · simp only [hsz, List.map_cons, List.sum_cons]

theorem shape_map_segStat (o : Opts) (segs : List Seg) (hidx : ∀ s ∈ segs, IdxOK s)
    (hmi : ∀ s ∈ segs, s.mem.isSome = true → s.idxf.isSome = true) :
    shape (segs.map (fun s => (segStat o s).1)) = shape segs := by
  unfold shape
  rw [List.map_map]
  apply List.map_congr_left
  intro s hs
  obtain ⟨_, _, hb, _, hr, _⟩ := segStat_spec o s (hidx s hs) (hmi s hs)
  simp only [Function.comp, hb, hr]

/-- **Stat**: on a log satisfying the invariant (and the MemIdx clause) Stat succeeds, counts
exactly the live messages and the segments, reports the total size of all segment files (after
rebuilding missing index files), and only loads/rebuilds indexes. -/
theorem stat_spec (l : Log) (h : Inv l) (hmi : MemIdx l) :
    ∃ st, (l.stat).2 = .ok st ∧ st.messages = ((abs l).live.length : Int) ∧
      st.segments = (l.segs.length : Int) ∧
      Loaded l (l.stat).1 ∧ MemIdx (l.stat).1 ∧ (∀ s ∈ (l.stat).1.segs, s.idxf.isSome = true) ∧
      st.size = ((l.stat).1.segs.map (segFileSize l.opts.params)).sum := by
  obtain ⟨st, hgo, hseg, hmsg, hsz⟩ := stat_go_spec l.opts l.segs h.idx hmi
  have hst : l.stat = ({ l with segs := l.segs.map (fun s => (segStat l.opts s).1) }, .ok st) := by
    unfold Log.stat
    simp only [hgo]
  have hsh := shape_map_segStat l.opts l.segs h.idx hmi
  have hS : ∀ (Q : Seg → Prop), (∀ s ∈ l.segs, Q (segStat l.opts s).1) →
      ∀ t ∈ l.segs.map (fun s => (segStat l.opts s).1), Q t := fun Q hQ t ht => by
    obtain ⟨s, hs, rfl⟩ := List.mem_map.mp ht
    exact hQ s hs
  have hspec := fun s hs => segStat_spec l.opts s (h.idx s hs) (hmi s hs)
  rw [hst]
  refine ⟨st, rfl, ?_, hseg, ⟨⟨?_, ?_, ?_, ?_⟩, hsh, rfl, rfl, rfl⟩, ?_, ?_, hsz⟩
  · rw [abs_live]; exact hmsg
  · show ShapeOK (shape (l.segs.map (fun s => (segStat l.opts s).1)))
    rw [hsh]; exact h.shape
  · refine hS _ fun s hs => ?_
    obtain ⟨_, _, _, _, _, hok, _⟩ := hspec s hs
    exact hok
  · intro hro
    show l.wNextOff = shapeNext (shape (l.segs.map (fun s => (segStat l.opts s).1)))
    rw [hsh]; exact h.next hro
  · -- the head of a read-write log has its index file, so `Stat` leaves it as it is
    intro hro hd hl
    rw [List.getLast?_map] at hl
    obtain ⟨hd0, hl0, rfl⟩ := Option.map_eq_some_iff.mp hl
    have hH := h.head hro hd0 hl0
    obtain ⟨its, _, f, hf, _⟩ := hH.loaded
    obtain ⟨_, _, _, _, _, _, _, hsame⟩ := hspec hd0 (List.mem_of_getLast? hl0)
    rw [hsame (by rw [hf]; rfl)]; exact hH
  · refine hS _ fun s hs => ?_
    obtain ⟨_, _, _, _, _, _, hmem, _⟩ := hspec s hs
    exact hmem
  · exact hS (fun t => t.idxf.isSome = true) (fun s hs => by
      obtain ⟨⟨f, hf⟩, _⟩ := hspec s hs
      rw [hf]; rfl)

theorem stat_ok (l : Log) (h : Inv l) (hmi : MemIdx l) : Spec.StatOK (abs l) (l.stat).2 := by
  obtain ⟨st, hst, hmsg, hseg, _⟩ := stat_spec l h hmi
  rw [hst]
  unfold Spec.StatOK
  dsimp only
  left
  refine ⟨hmsg, ?_⟩
  have := List.length_pos_iff.mpr h.segs_ne
  rw [hseg]; omega

end Klev

#print axioms Klev.loadIndex_memIdx
#print axioms Klev.loadIndex_idxf_some
#print axioms Klev.withIndex_memIdx
#print axioms Klev.memIdx_head
#print axioms Klev.segStat_spec
#print axioms Klev.stat_spec
#print axioms Klev.stat_ok
