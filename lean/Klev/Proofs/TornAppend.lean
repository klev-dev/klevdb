/-
A crash part-way through an append, on the bytes (`Klev/SegBytes.lean`). `Publish` appends the
encoded records to the head log; a crash after any number of bytes leaves a log that `Recover`
reopens consistently. A strict prefix of an encoded record never parses as a record
(`torn_record_class`), so `Recover` keeps exactly the whole records (`torn_append_recovers`,
`torn_batch_recovers`); the result passes `Check` and recovering again changes nothing. Which
record of a batch a cut falls into is a fact about the increasing sequence of record ends
(`exists_last_le`).
-/
import Klev.Proofs.RecoverCheck
namespace Klev

/-- What the reader says at the start of a record of which only the first `j` bytes reached
the file: nothing at all is the end of the file, fewer than 28 bytes is a short header, and
from 28 bytes on the header is the record's own, so the body it announces is longer than
what is there. -/
theorem torn_record_class (v : Ver) (pre : List UInt8) (m : Msg) (h : m.Encodable) (j : Nat)
    (hj : j < (enc v m).length) :
    dec v (pre ++ (enc v m).take j) pre.length =
      if j = 0 then .eof else if j < 28 then .bad .shortHeader else .bad .shortData := by
  by_cases h28 : j < 28
  · have hL : (pre ++ (enc v m).take j).length = pre.length + j := by
      rw [List.length_append, List.length_take_of_le (Nat.le_of_lt hj)]
    rw [dec_of_short v _ _ (by rw [hL]; exact Nat.add_lt_add_left h28 _), hL]
    by_cases h0 : j = 0
    · rw [if_pos h0, if_pos (by omega)]
    · have hpos : pre.length < pre.length + j := Nat.lt_add_of_pos_right (Nat.pos_of_ne_zero h0)
      rw [if_neg h0, if_neg (Nat.not_le_of_gt hpos), if_pos h28]
  · rw [if_neg (by omega), if_neg h28]
    cases v
    · obtain ⟨_, _, f3, f4, _⟩ := encV1_fields m
      exact decV1_cut pre (encV1 m) j _ _ (Nat.le_of_not_lt h28) hj (encV1_length m) f3 f4
        h.2.2.2.2
    · obtain ⟨_, _, f3, f4, _⟩ := v2Body_fields m
      exact decV2_cut pre (crcBytes (v2Body m)) (v2Body m) j _ _ (crcBytes_length _)
        (Nat.le_of_not_lt h28) hj (v2Body_length m) f3 f4 h.2.2.2.2

theorem torn_record_not_parsed (v : Ver) (pre : List UInt8) (m : Msg) (h : m.Encodable) (j : Nat)
    (hj : j < (enc v m).length) :
    ∀ m' n, dec v (pre ++ (enc v m).take j) pre.length ≠ .ok m' n := by
  intro m' n
  rw [torn_record_class v pre m h j hj]
  exact ite_ne nofun (ite_ne nofun nofun)

theorem torn_append_recovers (p : Params) (base : Int) (ms : List Msg) (m : Msg)
    (idx : Option (List UInt8)) (hms : ∀ x ∈ ms, x.Encodable) (hm : m.Encodable) (j : Nat)
    (hj : j < (enc .v2 m).length) :
    Seg.recover p ⟨base, render .v2 ms ++ (enc .v2 m).take j, idx⟩ =
      .ok ⟨base, render .v2 ms, recoveredIdx p base (derive p .v2 ms) idx⟩ :=
  recover_eq p base ms _ idx hms (torn_record_not_parsed .v2 (render .v2 ms) m hm j hj)

theorem encodable_snoc {ms : List Msg} {m : Msg} (hms : ∀ x ∈ ms, x.Encodable)
    (hm : m.Encodable) : ∀ x ∈ ms ++ [m], x.Encodable :=
  List.forall_mem_append.mpr ⟨hms, fun _ hx => List.mem_singleton.mp hx ▸ hm⟩

/-- Every cut `j ≤` the record's length: the log afterwards holds the old records, plus the
new one exactly when all of it reached the file. -/
theorem append_cut_recovers (p : Params) (base : Int) (ms : List Msg) (m : Msg)
    (idx : Option (List UInt8)) (hms : ∀ x ∈ ms, x.Encodable) (hm : m.Encodable) (j : Nat)
    (hj : j ≤ (enc .v2 m).length) :
    Seg.recover p ⟨base, render .v2 ms ++ (enc .v2 m).take j, idx⟩ =
      let ms' := if j = (enc .v2 m).length then ms ++ [m] else ms
      .ok ⟨base, render .v2 ms', recoveredIdx p base (derive p .v2 ms') idx⟩ := by
  by_cases h : j = (enc .v2 m).length
  · simp only [if_pos h]
    rw [h, List.take_length, ← render_snoc]
    exact recover_clean p base (ms ++ [m]) idx (encodable_snoc hms hm)
  · simp only [if_neg h]
    exact torn_append_recovers p base ms m idx hms hm j (Nat.lt_of_le_of_ne hj h)

theorem whole_append_check (p : Params) (base : Int) (ms : List Msg) (m : Msg)
    (idx : Option (List UInt8)) (hms : ∀ x ∈ ms, x.Encodable) (hm : m.Encodable)
    (hsize : (render .v2 (ms ++ [m])).length < two63) (hbase : 0 ≤ base)
    (hfirst : ∀ x ∈ (ms ++ [m]).head?, x.off = base) :
    ∀ f', Seg.recover p ⟨base, render .v2 ms ++ enc .v2 m, idx⟩ = .ok f' →
      Seg.check p f' = .ok () := by
  have := check_after_recover p base (ms ++ [m]) [] idx (encodable_snoc hms hm) (hno_nil _)
    hsize hbase hfirst
  rwa [List.append_nil, render_snoc] at this

theorem recover_idempotent_on_result (p : Params) (base : Int) (ms : List Msg) (m : Msg)
    (idx : Option (List UInt8)) (hms : ∀ x ∈ ms, x.Encodable) (hm : m.Encodable) (j : Nat)
    (hj : j < (enc .v2 m).length) (hsize : (render .v2 ms).length < two63) (hbase : 0 ≤ base)
    (hfirst : ∀ x ∈ ms.head?, x.off = base) :
    Seg.recover p ⟨base, render .v2 ms, recoveredIdx p base (derive p .v2 ms) idx⟩ =
      .ok ⟨base, render .v2 ms, recoveredIdx p base (derive p .v2 ms) idx⟩ :=
  recover_noop_of_check p _
    (check_recoveredIdx p .v2 base ms idx hms (logVersion_hdr_v2 _ base) hsize hbase hfirst)

theorem recover_idempotent_on_result' (p : Params) (base : Int) (ms : List Msg) (m : Msg)
    (idx : Option (List UInt8)) (hms : ∀ x ∈ ms, x.Encodable) (hm : m.Encodable) (j : Nat)
    (hj : j < (enc .v2 m).length) (hsize : (render .v2 ms).length < two63) (hbase : 0 ≤ base)
    (hfirst : ∀ x ∈ ms.head?, x.off = base) :
    ∀ f', Seg.recover p ⟨base, render .v2 ms ++ (enc .v2 m).take j, idx⟩ = .ok f' →
      Seg.recover p f' = .ok f' := fun f' hf =>
  recover_noop_of_check p f'
    (check_after_recover p base ms _ idx hms
      (torn_record_not_parsed .v2 (render .v2 ms) m hm j hj) hsize hbase hfirst f' hf)

theorem exists_last_le (f : Nat → Nat) (c n : Nat) (h0 : f 0 ≤ c) :
    ∃ k, k ≤ n ∧ f k ≤ c ∧ (k < n → c < f (k + 1)) := by
  induction n with
  | zero => exact ⟨0, Nat.le_refl _, h0, fun h => absurd h (Nat.lt_irrefl _)⟩
  | succ n ih =>
    by_cases hn : f (n + 1) ≤ c
    · exact ⟨n + 1, Nat.le_refl _, hn, fun h => absurd h (Nat.lt_irrefl _)⟩
    · obtain ⟨k, hk, h1, h2⟩ := ih
      refine ⟨k, Nat.le_succ_of_le hk, h1, fun _ => ?_⟩
      by_cases hkn : k < n
      · exact h2 hkn
      · have : k = n := Nat.le_antisymm hk (Nat.le_of_not_lt hkn)
        subst this
        exact Nat.lt_of_not_le hn

/-- The file `render ms ++ encAll bs` cut at any byte `c` of the appended region recovers to
the old records plus a prefix `bs.take k` of the batch, where `k` is the number of whole
batch records within the first `c` appended bytes (the two bounds on `c` determine `k`). -/
theorem torn_batch_recovers (p : Params) (base : Int) (ms bs : List Msg)
    (idx : Option (List UInt8)) (hms : ∀ x ∈ ms, x.Encodable) (hbs : ∀ x ∈ bs, x.Encodable)
    (c : Nat) (hc : c ≤ (encAll .v2 bs).length) :
    ∃ k, k ≤ bs.length ∧ (encAll .v2 (bs.take k)).length ≤ c ∧
      (k < bs.length → c < (encAll .v2 (bs.take (k + 1))).length) ∧
      Seg.recover p ⟨base, (render .v2 ms ++ encAll .v2 bs).take ((render .v2 ms).length + c),
          idx⟩ =
        .ok ⟨base, render .v2 (ms ++ bs.take k),
          recoveredIdx p base (derive p .v2 (ms ++ bs.take k)) idx⟩ := by
  obtain ⟨k, hk, h1, h2⟩ :=
    exists_last_le (fun k => (encAll .v2 (bs.take k)).length) c bs.length (Nat.zero_le c)
  refine ⟨k, hk, h1, h2, ?_⟩
  have hE : ∀ x ∈ ms ++ bs.take k, x.Encodable :=
    List.forall_mem_append.mpr ⟨hms, fun x hx => hbs x (List.mem_of_mem_take hx)⟩
  rw [List.take_length_add_append]
  by_cases hkl : k < bs.length
  · -- the cut falls inside record `k` of the batch (or at its start)
    have h2 := h2 hkl
    rw [encAll_take_succ .v2 bs k hkl, List.length_append] at h2
    rw [encAll_split .v2 bs k hkl, take_inside _ _ _ c h1 (Nat.le_of_lt h2), ← List.append_assoc,
      ← render_append]
    exact torn_append_recovers p base (ms ++ bs.take k) bs[k] idx hE
      (hbs _ (List.getElem_mem hkl)) _ (Nat.sub_lt_left_of_lt_add h1 h2)
  · -- the whole batch is in the file
    have hkl : k = bs.length := Nat.le_antisymm hk (Nat.le_of_not_lt hkl)
    subst hkl
    rw [List.take_length] at h1 ⊢
    rw [List.take_of_length_le h1, ← render_append]
    exact recover_clean p base (ms ++ bs) idx (List.forall_mem_append.mpr ⟨hms, hbs⟩)

theorem head?_append_take {ms bs : List Msg} (k : Nat) :
    ∀ x ∈ (ms ++ bs.take k).head?, x ∈ (ms ++ bs).head? := by
  intro x hx
  cases ms with
  | cons a ms => exact hx
  | nil =>
    cases bs with
    | nil => rw [List.take_nil] at hx; exact hx
    | cons b bs =>
      cases k with
      | zero => rw [List.take_zero] at hx; cases hx
      | succ k => exact hx

/-- What Recover leaves of a cut batch passes Check, and recovering again changes nothing. -/
theorem torn_batch_check (p : Params) (base : Int) (ms bs : List Msg)
    (idx : Option (List UInt8)) (hms : ∀ x ∈ ms, x.Encodable) (hbs : ∀ x ∈ bs, x.Encodable)
    (c : Nat) (hc : c ≤ (encAll .v2 bs).length)
    (hsize : (render .v2 (ms ++ bs)).length < two63) (hbase : 0 ≤ base)
    (hfirst : ∀ x ∈ (ms ++ bs).head?, x.off = base) :
    ∀ f', Seg.recover p ⟨base,
        (render .v2 ms ++ encAll .v2 bs).take ((render .v2 ms).length + c), idx⟩ = .ok f' →
      Seg.check p f' = .ok () ∧ Seg.recover p f' = .ok f' := by
  intro f' hf
  obtain ⟨k, _, _, _, hr⟩ := torn_batch_recovers p base ms bs idx hms hbs c hc
  rw [hr] at hf
  cases hf
  have hsz : (render .v2 (ms ++ bs.take k)).length < two63 := by
    have : render .v2 (ms ++ bs) = render .v2 (ms ++ bs.take k) ++ encAll .v2 (bs.drop k) := by
      rw [← render_append, List.append_assoc, List.take_append_drop]
    rw [this, List.length_append] at hsize
    exact Nat.lt_of_le_of_lt (Nat.le_add_right _ _) hsize
  have hchk := check_recoveredIdx p .v2 base (ms ++ bs.take k) idx
    (List.forall_mem_append.mpr ⟨hms, fun x hx => hbs x (List.mem_of_mem_take hx)⟩)
    (logVersion_hdr_v2 _ base) hsz hbase (fun x hx => hfirst x (head?_append_take k x hx))
  exact ⟨hchk, recover_noop_of_check p _ hchk⟩

end Klev

#print axioms Klev.torn_record_class
#print axioms Klev.torn_record_not_parsed
#print axioms Klev.torn_append_recovers
#print axioms Klev.append_cut_recovers
#print axioms Klev.whole_append_check
#print axioms Klev.recover_idempotent_on_result
#print axioms Klev.recover_idempotent_on_result'
#print axioms Klev.torn_batch_recovers
#print axioms Klev.torn_batch_check
