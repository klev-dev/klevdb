/-
`FindByCount` and `FindBySize` (trim_count.go, trim_size.go): `Stat`, `NextOffset`, then the scan
loop with a counter, resp. a running size estimate. `MemIdx` (Klev/Proofs/StatOK.lean) is the
extra invariant clause `Stat` needs.
-/
import Klev.Proofs.HelpersOK
import Klev.Proofs.StatOK
namespace Klev
open Helpers

theorem offsOf_append (a b : List Msg) : Spec.offsOf (a ++ b) = Spec.offsOf a ++ Spec.offsOf b := by
  unfold Spec.offsOf; exact List.map_append

theorem sizePrefix_lt (est : Msg → Int) (sz : Int) {total : Int} (h : total < sz) :
    ∀ ms : List Msg, Spec.sizePrefix est sz total ms = []
  | [] => rfl
  | m :: ms => by
    rw [Spec.sizePrefix]
    simp only [h, if_true]

theorem sizePrefix_cons_ge (est : Msg → Int) (sz : Int) {total : Int} (h : ¬ total < sz)
    (m : Msg) (ms : List Msg) :
    Spec.sizePrefix est sz total (m :: ms) = m :: Spec.sizePrefix est sz (total - est m) ms := by
  rw [Spec.sizePrefix]
  simp only [h, if_false]

theorem sizePrefix_append (est : Msg → Int) (sz : Int) :
    ∀ (ms rest : List Msg) (total : Int), sz ≤ total →
      Spec.sizePrefix est sz total (ms ++ rest) =
        (takeSize est sz total ms).1 ++ Spec.sizePrefix est sz (takeSize est sz total ms).2 rest
  | [], rest, total, _ => rfl
  | m :: ms, rest, total, hge => by
    rw [List.cons_append, sizePrefix_cons_ge est sz (Int.not_lt.mpr hge), takeSize]
    by_cases hlt : total - est m < sz
    · simp only [hlt, if_true]
      rw [sizePrefix_lt est sz hlt, sizePrefix_lt est sz hlt]
      rfl
    · simp only [hlt, if_false]
      rw [sizePrefix_append est sz ms rest (total - est m) (Int.not_lt.mp hlt)]
      rfl

theorem sizePrefix_prefix (est : Msg → Int) (sz : Int) :
    ∀ (ms : List Msg) (total : Int), Spec.sizePrefix est sz total ms <+: ms
  | [], _ => by simp [Spec.sizePrefix]
  | m :: ms, total => by
    by_cases hlt : total < sz
    · rw [sizePrefix_lt est sz hlt]; exact List.nil_prefix
    · rw [sizePrefix_cons_ge est sz hlt]
      exact (List.cons_prefix_cons).mpr ⟨rfl, sizePrefix_prefix est sz ms _⟩

/-- The prefix `FindBySize` selects brings the estimate below `sz`, or is everything. -/
theorem sizePrefix_reaches (est : Msg → Int) (sz : Int) :
    ∀ (ms : List Msg) (total : Int),
      total - ((Spec.sizePrefix est sz total ms).map est).sum < sz ∨ Spec.sizePrefix est sz total ms = ms
  | [], _ => by right; simp [Spec.sizePrefix]
  | m :: ms, total => by
    by_cases hlt : total < sz
    · left; rw [sizePrefix_lt est sz hlt]; simpa using hlt
    · rw [sizePrefix_cons_ge est sz hlt]
      rcases sizePrefix_reaches est sz ms (total - est m) with h | h
      · left
        simp only [List.map_cons, List.sum_cons]
        rwa [← Int.sub_sub]
      · right; rw [h]

/-- …and no shorter prefix does: before each selected message the estimate was still `≥ sz`. -/
theorem sizePrefix_minimal (est : Msg → Int) (sz : Int) :
    ∀ (ms : List Msg) (total : Int) (k : Nat), k < (Spec.sizePrefix est sz total ms).length →
      sz ≤ total - ((ms.take k).map est).sum
  | [], _, k, hk => by simp [Spec.sizePrefix] at hk
  | m :: ms, total, k, hk => by
    by_cases hlt : total < sz
    · rw [sizePrefix_lt est sz hlt] at hk; simp at hk
    · rw [sizePrefix_cons_ge est sz hlt] at hk
      cases k with
      | zero => simp; exact Int.not_lt.mp hlt
      | succ k =>
        simp only [List.take_succ_cons, List.map_cons, List.sum_cons]
        rw [← Int.sub_sub]
        exact sizePrefix_minimal est sz ms (total - est m) k (by simpa using hk)

def countStep (st : List Int × Int) (msgs : List Msg) : (List Int × Int) × Bool :=
  ((st.1 ++ (msgs.take st.2.toNat).map (·.off), st.2 - ((msgs.take st.2.toNat).length : Int)), false)

def sizeStep (est : Msg → Int) (sz : Int) (st : List Int × Int) (msgs : List Msg) :
    (List Int × Int) × Bool :=
  ((st.1 ++ (takeSize est sz st.2 msgs).1.map (·.off), (takeSize est sz st.2 msgs).2), false)

theorem toRemove_step (tr : Int) (n m : Nat) (h : tr.toNat = n) (hpos : 0 < tr) :
    (tr - ((min n m : Nat) : Int)).toNat = n - m := by
  obtain rfl : tr = (n : Int) := by rw [← h]; exact (Int.toNat_of_nonneg (Int.le_of_lt hpos)).symm
  rw [← Int.ofNat_sub (Nat.min_le_left n m), Int.toNat_natCast]
  rcases Nat.le_total n m with hnm | hnm
  · rw [Nat.min_eq_left hnm, Nat.sub_self, Nat.sub_eq_zero_of_le hnm]
  · rw [Nat.min_eq_right hnm]

theorem scanLoop_count (l : Log) (h : Inv l) (tr0 : Int) :
    ∃ l' tr', Loaded l l' ∧
      scanLoop (abs l).next (fun (st : List Int × Int) => decide (st.2 > 0)) countStep
        (fuelFor (abs l).next) l offsetOldest ([], tr0) =
        (l', .ok (Spec.offsOf ((abs l).live.take tr0.toNat), tr')) := by
  have hnn := abs_next_nonneg l h
  -- the counter is what is still missing of the `tr0.toNat` messages
  have hsi : ScanInv (abs l).next (fun (st : List Int × Int) => decide (st.2 > 0)) countStep
      (abs l).live
      (fun seen st => st.1 = Spec.offsOf (seen.take tr0.toNat) ∧
        st.2.toNat = tr0.toNat - seen.length)
      (fun st => st.1 = Spec.offsOf ((abs l).live.take tr0.toNat)) := by
    refine ⟨?_, ?_, ?_⟩
    · rintro seen ms rest st hF ⟨hI1, hI2⟩ hc
      have htr : st.2 > 0 := of_decide_eq_true hc
      refine ⟨fun _ => ?_, fun hb => nomatch hb⟩
      unfold countStep
      dsimp only
      rw [List.take_append, offsOf_append, ← hI1, hI2, List.length_append, List.length_take]
      exact ⟨rfl, (toRemove_step st.2 _ ms.length hI2 htr).trans (Nat.sub_sub ..)⟩
    · rintro seen rest st hF ⟨hI1, hI2⟩ hc
      have htr : st.2 ≤ 0 := Int.not_lt.mp (of_decide_eq_false hc)
      rw [← hF, List.take_append, ← hI2, Int.toNat_eq_zero.mpr htr, List.take_zero, List.append_nil]
      exact hI1
    · intro seen rest st hF hI hge
      rw [← hF, Spec.rest_nil_of_ge_next (abs_wf l h) hF hge, List.append_nil]
      exact hI.1
  obtain ⟨l', ⟨acc', tr'⟩, hr, hld, hq⟩ := scanLoop_find l h (by omega) (Int.le_refl _) hsi
    ([], tr0) ⟨by rw [List.take_nil]; rfl, rfl⟩
  exact ⟨l', tr', hld, by rw [hr]; exact congrArg (fun a => (l', Out.ok (a, tr'))) hq⟩

theorem scanLoop_size (l : Log) (h : Inv l) (est : Msg → Int) (sz S : Int) :
    ∃ l' t', Loaded l l' ∧
      scanLoop (abs l).next (fun (st : List Int × Int) => decide (st.2 ≥ sz)) (sizeStep est sz)
        (fuelFor (abs l).next) l offsetOldest ([], S) =
        (l', .ok (Spec.offsOf (Spec.sizePrefix est sz S (abs l).live), t')) := by
  have hnn := abs_next_nonneg l h
  -- `X` is what is selected of `seen`; the selection of `seen ++ rest` continues from `st.2`
  have hsi : ScanInv (abs l).next (fun (st : List Int × Int) => decide (st.2 ≥ sz))
      (sizeStep est sz) (abs l).live
      (fun seen st => ∃ X, st.1 = Spec.offsOf X ∧
        ∀ rest, Spec.sizePrefix est sz S (seen ++ rest) = X ++ Spec.sizePrefix est sz st.2 rest)
      (fun st => st.1 = Spec.offsOf (Spec.sizePrefix est sz S (abs l).live)) := by
    refine ⟨?_, ?_, ?_⟩
    · rintro seen ms rest st hF ⟨X, hI1, hI2⟩ hc
      have hge : st.2 ≥ sz := of_decide_eq_true hc
      refine ⟨fun _ => ⟨X ++ (takeSize est sz st.2 ms).1, ?_, fun rest' => ?_⟩, fun hb => nomatch hb⟩
      · unfold sizeStep
        rw [offsOf_append, hI1]
        rfl
      · unfold sizeStep
        rw [List.append_assoc seen ms rest', hI2 (ms ++ rest'),
          sizePrefix_append est sz ms rest' st.2 hge, List.append_assoc]
    · rintro seen rest st hF ⟨X, hI1, hI2⟩ hc
      have hlt : st.2 < sz := Int.not_le.mp (of_decide_eq_false hc)
      rw [← hF, hI2 rest, sizePrefix_lt est sz hlt, List.append_nil]
      exact hI1
    · rintro seen rest st hF ⟨X, hI1, hI2⟩ hge
      obtain rfl := Spec.rest_nil_of_ge_next (abs_wf l h) hF hge
      rw [← hF, hI2 [], hI1, show Spec.sizePrefix est sz st.2 [] = [] by cases st; rfl,
        List.append_nil]
  obtain ⟨l', ⟨acc', t'⟩, hr, hld, hq⟩ := scanLoop_find l h (by omega) (Int.le_refl _) hsi
    ([], S) ⟨[], rfl, fun rest => rfl⟩
  exact ⟨l', t', hld, by rw [hr]; exact congrArg (fun a => (l', Out.ok (a, t'))) hq⟩

theorem findByCount_eq (l : Log) (h : Inv l) (hmi : MemIdx l) (max : Int) :
    ∃ l', Loaded l l' ∧ findByCount l max =
      (l', .ok (Spec.offsOf ((abs l).live.take (((abs l).live.length : Int) - max).toNat))) := by
  obtain ⟨st, hst, hmsg, _, hld, _⟩ := stat_spec l h hmi
  unfold findByCount
  rw [show l.stat = ((l.stat).1, .ok st) from Prod.ext rfl hst]
  dsimp only
  by_cases hle : st.messages ≤ max
  · rw [if_pos hle]
    refine ⟨_, hld, ?_⟩
    rw [← hmsg, Int.toNat_eq_zero.mpr (Int.sub_nonpos_of_le hle)]
    rfl
  · rw [if_neg hle]
    obtain ⟨l2, hnx, hld0⟩ := nextOffset_eq _ hld.inv
    obtain ⟨l', tr', hl', hr⟩ := scanLoop_count l2 hld0.inv (st.messages - max)
    rw [hld0.abs, hld.abs] at hr
    rw [hnx, hld.abs]
    dsimp only
    unfold countStep at hr
    rw [hr]
    exact ⟨l', (hld.trans hld0).trans hl', by rw [hmsg]⟩

/-- **FindByCount**: the offsets of the first `n − max` live messages (none when `n ≤ max`). -/
theorem findByCount_ok (l : Log) (h : Inv l) (hmi : MemIdx l) (max : Int) :
    Spec.FindByCountOK (abs l) max (findByCount l max).2 ∧ Loaded l (findByCount l max).1 := by
  obtain ⟨l', hl', heq⟩ := findByCount_eq l h hmi max
  rw [heq]
  exact ⟨Spec.SameSet.refl _, hl'⟩

theorem findBySize_eq (l : Log) (h : Inv l) (hmi : MemIdx l) (sz : Int) :
    ∃ st l', (l.stat).2 = .ok st ∧ Loaded l l' ∧ findBySize l sz =
      (l', .ok (Spec.offsOf (Spec.sizePrefix (sizeOf l) sz st.size (abs l).live))) := by
  obtain ⟨st, hst, _, _, hld, _⟩ := stat_spec l h hmi
  refine ⟨st, ?_⟩
  unfold findBySize
  rw [show l.stat = ((l.stat).1, .ok st) from Prod.ext rfl hst]
  dsimp only
  by_cases hlt : st.size < sz
  · rw [if_pos hlt]
    refine ⟨_, rfl, hld, ?_⟩
    rw [sizePrefix_lt (sizeOf l) sz hlt]
    rfl
  · rw [if_neg hlt]
    obtain ⟨l2, hnx, hld0⟩ := nextOffset_eq _ hld.inv
    obtain ⟨l', t', hl', hr⟩ := scanLoop_size l2 hld0.inv (sizeOf l) sz st.size
    rw [hld0.abs, hld.abs] at hr
    rw [hnx, hld.abs]
    dsimp only
    unfold sizeStep at hr
    rw [hr]
    exact ⟨l', rfl, (hld.trans hld0).trans hl', rfl⟩

/-- **FindBySize**: with `st` the result of `Stat` (total size of all segment files), the
offsets of the shortest prefix of the live messages whose estimated removal
(`Size(m)` = record size in `NewSegmentsVersion` + index item size) brings the size below
`sz`; everything if that is impossible, nothing if the size is already below. -/
theorem findBySize_ok (l : Log) (h : Inv l) (hmi : MemIdx l) (sz : Int) :
    ∃ st, (l.stat).2 = .ok st ∧
      st.size = ((l.stat).1.segs.map (segFileSize l.opts.params)).sum ∧
      Spec.FindBySizeOK (abs l) (fun m => recSize l.opts.nsv m + l.opts.params.size) st.size sz
        (findBySize l sz).2 ∧
      Loaded l (findBySize l sz).1 := by
  obtain ⟨st, hst, _, _, _, _, _, hsize⟩ := stat_spec l h hmi
  obtain ⟨st', l', hst', hl', heq⟩ := findBySize_eq l h hmi sz
  obtain rfl : st = st' := Out.ok.inj (hst.symm.trans hst')
  rw [heq]
  exact ⟨st, hst, hsize, Spec.SameSet.refl _, hl'⟩

end Klev

#print axioms Klev.sizePrefix_append
#print axioms Klev.scanLoop_count
#print axioms Klev.scanLoop_size
#print axioms Klev.findByCount_ok
#print axioms Klev.findBySize_ok
