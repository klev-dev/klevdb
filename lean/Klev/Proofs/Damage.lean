/-
In-place damage to a V2 record (`crc(4) ‖ body`, `Klev/Codec.lean`).

* a changed stored CRC field is rejected with a CRC error (`v2_crc_field_damage`);
* a change of at most four consecutive body bytes that leaves the two length fields
  (body bytes [16, 24)) alone is rejected with a CRC error (`v2_body_damage`), whatever else
  it hits (offset, time, key, value, trailer) — the CRC check precedes the trailer check;
* records that were not touched still read back (`untouched_record_reads_back`).

Both damage theorems pick the CRC branch of `decV2_frame` (`Klev/Proofs/Codec.lean`: what
`decV2` answers on any frame `crc ‖ body` whose length fields are intact); `crc32c` is only
used through `crc_burst4` (`Klev/Proofs/CrcAlgebra.lean`).
-/
import Klev.Proofs.Codec
import Klev.Proofs.CrcAlgebra
namespace Klev

theorem mul_add_inj {P x y r s : Nat} (hr : r < P) (hs : s < P) (h : x * P + r = y * P + s) :
    x = y ∧ r = s := by
  have hP : 0 < P := Nat.lt_of_le_of_lt (Nat.zero_le r) hr
  have hx : x = y := by
    have := congrArg (· / P) h
    simpa [Nat.add_comm, Nat.add_mul_div_right, Nat.div_eq_of_lt, hr, hs, hP] using this
  subst hx
  exact ⟨rfl, Nat.add_left_cancel h⟩

theorem unbe_injective (xs ys : List UInt8) (hl : xs.length = ys.length)
    (h : unbe xs = unbe ys) : xs = ys := by
  induction xs generalizing ys with
  | nil => exact (List.eq_nil_of_length_eq_zero hl.symm).symm
  | cons x xs ih =>
    cases ys with
    | nil => exact absurd hl (Nat.succ_ne_zero _)
    | cons y ys =>
      have hl' : xs.length = ys.length := Nat.succ.inj hl
      rw [unbe_cons, unbe_cons, ← hl'] at h
      obtain ⟨h1, h2⟩ := mul_add_inj (unbe_lt xs) (hl' ▸ unbe_lt ys) h
      rw [UInt8.toNat_inj.mp h1, ih ys hl' h2]

/-- Only the stored CRC is changed: the record is rejected with a CRC error. -/
theorem v2_crc_field_damage (pre post : List UInt8) (m : Msg) (h : m.Encodable) (c' : List UInt8)
    (hc : c'.length = 4) (hne : c' ≠ crcBytes (v2Body m)) :
    dec .v2 (pre ++ c' ++ v2Body m ++ post) pre.length = .bad .crc := by
  rw [dec]
  obtain ⟨_, _, f3, f4, _⟩ := v2Body_fields m
  rw [List.append_assoc pre c' (v2Body m), decV2_frame pre post c' (v2Body m) m.key.length
    m.val.length hc (v2Body_length m) f3 f4 h.2.2.2.2, if_pos]
  -- a four-byte field that decodes to the CRC is the stored CRC
  intro he
  exact hne (unbe_injective _ _ (hc.trans (crcBytes_length _).symm)
    ((unbe_crcBytes _).trans he).symm)

/-- At most four consecutive body bytes are changed, none of them in the two length fields:
the record is rejected with a CRC error. -/
theorem v2_body_damage (pre post : List UInt8) (m : Msg) (h : m.Encodable)
    (a d1 d2 z : List UInt8) (hsplit : v2Body m = a ++ d1 ++ z)
    (hl : d1.length = d2.length) (h4 : d1.length ≤ 4) (hne : d1 ≠ d2)
    (hlenFields : a.length + d1.length ≤ 16 ∨ 24 ≤ a.length) :
    dec .v2 (pre ++ crcBytes (v2Body m) ++ (a ++ d2 ++ z) ++ post) pre.length = .bad .crc := by
  rw [dec]
  obtain ⟨_, _, f3, f4, _⟩ := v2Body_fields m
  have hlen : (a ++ d2 ++ z).length = 24 + (m.key.length + m.val.length + 8) := by
    rw [← v2Body_length m, hsplit]
    simp only [List.length_append, hl]
  -- the length fields lie outside the damage, so the frame is still whole
  have hk : slice (a ++ d2 ++ z) 16 4 = be 4 m.key.length :=
    (slice_replace a d1 d2 z hl 16 4 (by omega)).symm.trans (hsplit ▸ f3)
  have hv : slice (a ++ d2 ++ z) 20 4 = be 4 m.val.length :=
    (slice_replace a d1 d2 z hl 20 4 (by omega)).symm.trans (hsplit ▸ f4)
  rw [List.append_assoc pre (crcBytes (v2Body m)) (a ++ d2 ++ z), decV2_frame pre post _ _
    m.key.length m.val.length (crcBytes_length _) hlen hk hv h.2.2.2.2, unbe_crcBytes, hsplit,
    if_pos fun he => crc_burst4 a z d1 d2 hl h4 hne (BitVec.eq_of_toNat_eq he).symm]

theorem v2_crc_field_damage_not_ok (pre post : List UInt8) (m : Msg) (h : m.Encodable)
    (c' : List UInt8) (hc : c'.length = 4) (hne : c' ≠ crcBytes (v2Body m)) :
    ∀ m' n, dec .v2 (pre ++ c' ++ v2Body m ++ post) pre.length ≠ .ok m' n := by
  intro m' n
  rw [v2_crc_field_damage pre post m h c' hc hne]
  exact Dec.noConfusion

theorem v2_body_damage_not_ok (pre post : List UInt8) (m : Msg) (h : m.Encodable)
    (a d1 d2 z : List UInt8) (hsplit : v2Body m = a ++ d1 ++ z)
    (hl : d1.length = d2.length) (h4 : d1.length ≤ 4) (hne : d1 ≠ d2)
    (hlenFields : a.length + d1.length ≤ 16 ∨ 24 ≤ a.length) :
    ∀ m' n, dec .v2 (pre ++ crcBytes (v2Body m) ++ (a ++ d2 ++ z) ++ post) pre.length ≠
      .ok m' n := by
  intro m' n
  rw [v2_body_damage pre post m h a d1 d2 z hsplit hl h4 hne hlenFields]
  exact Dec.noConfusion

/-- One changed byte (a single bit flip in particular) anywhere in the body outside the
length fields. -/
theorem v2_body_byte_damage (pre post : List UInt8) (m : Msg) (h : m.Encodable)
    (a z : List UInt8) (x y : UInt8) (hsplit : v2Body m = a ++ x :: z) (hxy : x ≠ y)
    (hlenFields : a.length + 1 ≤ 16 ∨ 24 ≤ a.length) :
    dec .v2 (pre ++ crcBytes (v2Body m) ++ (a ++ y :: z) ++ post) pre.length = .bad .crc := by
  have e : ∀ w : UInt8, a ++ w :: z = a ++ [w] ++ z := fun w => by
    rw [List.append_assoc, List.singleton_append]
  rw [e y]
  exact v2_body_damage pre post m h a [x] [y] z (by rw [hsplit, e x]) rfl (by simp)
    (fun hh => hxy (List.cons.inj hh).1) hlenFields

theorem v2_body_byte_damage_not_ok (pre post : List UInt8) (m : Msg) (h : m.Encodable)
    (a z : List UInt8) (x y : UInt8) (hsplit : v2Body m = a ++ x :: z) (hxy : x ≠ y)
    (hlenFields : a.length + 1 ≤ 16 ∨ 24 ≤ a.length) :
    ∀ m' n, dec .v2 (pre ++ crcBytes (v2Body m) ++ (a ++ y :: z) ++ post) pre.length ≠
      .ok m' n := by
  intro m' n
  rw [v2_body_byte_damage pre post m h a z x y hsplit hxy hlenFields]
  exact Dec.noConfusion

set_option linter.unusedVariables false in
/-- Whatever replaces the bytes after a record, and whatever (of the same length) replaces the
bytes before it, the record reads back identical (`pre`, `post` are what was there before). -/
theorem untouched_record_reads_back (v : Ver) (pre pre' post post' : List UInt8) (m : Msg)
    (h : m.Encodable) (hp : pre'.length = pre.length) :
    dec v (pre' ++ enc v m ++ post') pre.length = .ok m (pre.length + (enc v m).length) := by
  rw [← hp]
  exact dec_enc v pre' post' m h

def damageDemo : Msg := ⟨3, 1000, [1, 2], [9]⟩

theorem damageDemo_encodable : damageDemo.Encodable := by
  simp only [Msg.Encodable, damageDemo, two63, maxBody_eq]
  decide +kernel

/-- The split `v2Body m = a ++ d1 ++ z` with `a` the 24-byte fixed part, `d1` the key, `z` the
value and trailer; the replacement `[1, 3]` (one flipped bit) meets every hypothesis of
`v2_body_damage`. -/
example :
    let a := (v2Body damageDemo).take 24
    let d1 : List UInt8 := [1, 2]
    let d2 : List UInt8 := [1, 3]
    let z := (v2Body damageDemo).drop 26
    v2Body damageDemo = a ++ d1 ++ z ∧ d1.length = d2.length ∧ d1.length ≤ 4 ∧ d1 ≠ d2 ∧
      (a.length + d1.length ≤ 16 ∨ 24 ≤ a.length) := by
  decide +kernel

/-- A split in the other branch of `hlenFields`: the low byte of the offset (body byte 7). -/
example :
    let a := (v2Body damageDemo).take 7
    let d1 : List UInt8 := [3]
    let d2 : List UInt8 := [2]
    let z := (v2Body damageDemo).drop 8
    v2Body damageDemo = a ++ d1 ++ z ∧ d1.length = d2.length ∧ d1.length ≤ 4 ∧ d1 ≠ d2 ∧
      (a.length + d1.length ≤ 16 ∨ 24 ≤ a.length) := by
  decide +kernel

/-- The decoder evaluated on the concretely damaged record (key `[1,2]` → `[1,3]`). -/
example :
    dec .v2 ([7, 7, 7] ++ crcBytes (v2Body damageDemo) ++
      ((v2Body damageDemo).take 24 ++ [1, 3] ++ (v2Body damageDemo).drop 26) ++ [5, 5]) 3
      = .bad .crc := by
  decide +kernel

/-- … and on the undamaged one. -/
example :
    dec .v2 ([7, 7, 7] ++ enc .v2 damageDemo ++ [5, 5]) 3 = .ok damageDemo 42 := by
  decide +kernel

/-- The same damaged record, through the theorem. -/
example :
    dec .v2 ([7, 7, 7] ++ crcBytes (v2Body damageDemo) ++
      ((v2Body damageDemo).take 24 ++ [1, 3] ++ (v2Body damageDemo).drop 26) ++ [5, 5])
      ([7, 7, 7] : List UInt8).length = .bad .crc :=
  v2_body_damage [7, 7, 7] [5, 5] damageDemo damageDemo_encodable _ [1, 2] [1, 3] _
    (by decide +kernel) rfl (by decide +kernel) (by decide +kernel) (Or.inr (by decide +kernel))

end Klev

#print axioms Klev.unbe_injective
#print axioms Klev.v2_crc_field_damage
#print axioms Klev.v2_body_damage
#print axioms Klev.v2_crc_field_damage_not_ok
#print axioms Klev.v2_body_damage_not_ok
#print axioms Klev.v2_body_byte_damage
#print axioms Klev.v2_body_byte_damage_not_ok
#print axioms Klev.untouched_record_reads_back
