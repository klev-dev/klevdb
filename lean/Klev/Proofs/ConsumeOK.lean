/-
`Log.consume` satisfies the L0 relation `ConsumeOK` on every log that satisfies the
invariant — the refinement theorem for C03.
-/
import Klev.Proofs.ShapeLemmas
namespace Klev

/-- `ConsumeOK`, and what the model adds to it: an empty chunk only when nothing is left at or
after the cursor (the L0 relation alone also allows an empty chunk that skips a gap). -/
def ConsumeExact (s : Spec) (off : Int) (mc : Nat) (r : Out (Int × List Msg)) : Prop :=
  Spec.ConsumeOK s off mc r ∧ ∀ nxt, r = .ok (nxt, []) → s.fromOff off = []

theorem consumeExact_chunk {s : Spec} {off : Int} {mc : Nat} {F rest : List Msg} {lm : Msg}
    (hn : off ≠ offsetNewest) (hfrom : s.fromOff off = F ++ rest)
    (hT : (F.take mc).getLast? = some lm) (hle : off ≤ lm.off) (hlt : lm.off < s.next) :
    ConsumeExact s off mc (.ok (lm.off + 1, F.take mc)) := by
  have hgt : ¬ off > s.next := by omega
  unfold ConsumeExact Spec.ConsumeOK
  simp only [hn, hgt, if_false, hT, hfrom]
  refine ⟨⟨(List.take_prefix _ _).trans (List.prefix_append _ _), List.length_take_le _ _,
    trivial, Or.inl (Int.lt_add_one_of_le hle)⟩, fun nxt h => ?_⟩
  simp only [Out.ok.injEq, Prod.mk.injEq] at h
  rw [h.2] at hT
  cases hT

theorem consumeExact_caughtUp {s : Spec} {off : Int} {mc : Nat} (hn : off ≠ offsetNewest)
    (hle : off ≤ s.next) (hfrom : s.fromOff off = []) :
    ConsumeExact s off mc (.ok (s.next, [])) := by
  have hgt : ¬ off > s.next := Int.not_lt.mpr hle
  unfold ConsumeExact Spec.ConsumeOK
  simp [hn, hgt, hfrom]

theorem consume_exact (l : Log) (hinv : Inv l) (off : Int) (mc : Nat) (hmc : 1 ≤ mc)
    (hn : off ≠ offsetNewest) : ConsumeExact (abs l) off mc (l.consume off mc).2 := by
  have hsh := hinv.shape
  obtain ⟨i, hsearch, hst⟩ := consume_start hsh hn
  rw [← bases_eq_shape] at hsearch
  have hlen := shape_length l.segs
  obtain ⟨l1, s, its, c, hw, hl1, hr⟩ := withIndex_read l hinv i (by rw [← hlen]; exact hst.lt)
  have hfrom : (abs l).fromOff off = segFrom s.recs off ++ flat ((shape l.segs).drop (i + 1)) := by
    rw [hr.recs]; exact fromOff_split hsh hst
  simp only [Log.consume, hsearch, Int.toNat_natCast, hw]
  rw [readerConsume_eq c s its off mc hr.items (hr.sorted hsh) (hr.nonneg hsh) hn hmc]
  cases hT : ((segFrom s.recs off).take mc).getLast? with
  | some lm =>
    obtain ⟨hlmr, hle⟩ := mem_segFrom.mp (List.mem_of_mem_take (List.mem_of_getLast? hT))
    exact consumeExact_chunk hn hfrom hT hle (hsh.lt_next (hr.mem_flat hlmr))
  | none =>
    rw [(getLast?_take_eq_none hmc).mp hT, List.nil_append] at hfrom
    by_cases hlast : i + 1 < l.segs.length
    · -- a reader segment with nothing left: the next segment, from its oldest offset
      have hi1 : i + 1 < (shape l.segs).length := hlen ▸ hlast
      have hne : s.recs ≠ [] := by rw [hr.recs]; exact hsh.nonempty_idx i hi1
      have hoffb := hst.after (i + 1) (Nat.lt_succ_self i) hi1
      have hbn := hsh.base_le_next (i + 1) hi1
      obtain ⟨l2, s2, its2, c2, hw2, _, hr2⟩ :=
        withIndex_read l1 hl1.inv (i + 1) (by rw [hl1.len]; exact hlast)
      rw [hl1.shape] at hr2
      simp only [hr.head_of_lt hi1, Bool.false_eq_true, false_and, if_false, hne, hlast, if_true,
        hw2]
      rw [readerConsume_eq c2 s2 its2 offsetOldest mc hr2.items (hr2.sorted hsh) (hr2.nonneg hsh)
          (by decide) hmc,
        segFrom_oldest (hr2.nonneg hsh)]
      rw [flat_drop_cons _ _ hi1, ← hr2.recs] at hfrom
      cases hT2 : (s2.recs.take mc).getLast? with
      | some lm =>
        have hlmr := List.mem_of_mem_take (List.mem_of_getLast? hT2)
        have hlb := hsh.lower _ (List.getElem_mem hi1) lm (hr2.recs ▸ hlmr)
        exact consumeExact_chunk hn hfrom hT2 (Int.le_of_lt (Int.lt_of_lt_of_le hoffb hlb))
          (hsh.lt_next (hr2.mem_flat hlmr))
      | none =>
        -- the next segment is the empty head: caught up
        have hre2 := (getLast?_take_eq_none hmc).mp hT2
        have hnlt : ¬ i + 1 + 1 < (shape l.segs).length := fun h2 =>
          hsh.nonempty_idx (i + 1) h2 (hr2.recs ▸ hre2)
        have hlast2 : i + 1 + 1 = (shape l.segs).length := Nat.le_antisymm hi1 (Nat.not_lt.mp hnlt)
        have hle : offsetOldest ≤ shapeNext (shape l.segs) :=
          Int.le_trans (by decide : offsetOldest ≤ 0) hsh.next_nonneg
        rw [hre2, flat_drop_len _ _ (Nat.le_of_eq hlast2.symm)] at hfrom
        simp only [hr2.head_of_last hlast2, hr2.next hlast2, hle, and_self, if_true, ROut.toOut]
        exact consumeExact_caughtUp hn (Int.le_of_lt (Int.lt_of_lt_of_le hoffb hbn)) hfrom
    · -- the head: caught up, or beyond the next offset
      have hil : i + 1 = (shape l.segs).length :=
        Nat.le_antisymm hst.lt (by rw [hlen]; exact Nat.not_lt.mp hlast)
      rw [flat_drop_len _ _ (Nat.le_of_eq hil.symm)] at hfrom
      simp only [hr.head_of_last hil, hr.next hil, true_and]
      by_cases hle : off ≤ shapeNext (shape l.segs)
      · simp only [hle, if_true, ROut.toOut]
        exact consumeExact_caughtUp hn hle hfrom
      · have hgt : off > (abs l).next := Int.not_le.mp hle
        simp only [hle, if_false]
        unfold ConsumeExact Spec.ConsumeOK
        rw [if_neg hn, if_pos hgt]
        by_cases hre : s.recs = []
        · simp [hre, ROut.toOut, ierrClass]
        · simp [hre, hlast]

/-- **C03 refinement**: on every log satisfying the invariant, for every offset and every
`maxCount ≥ 1`, `Log.consume` returns what the L0 relation `ConsumeOK` allows. -/
theorem consume_ok (l : Log) (hinv : Inv l) (off : Int) (mc : Nat) (hmc : 1 ≤ mc) :
    Spec.ConsumeOK (abs l) off mc (l.consume off mc).2 := by
  by_cases hn : off = offsetNewest
  · -- OffsetNewest: the head reports the next offset
    subst hn
    obtain ⟨n, hn⟩ := segs_length_succ hinv
    obtain ⟨l1, s, its, c, hw, _, hr⟩ := withIndex_read l hinv n (hn ▸ Nat.lt_succ_self n)
    unfold Log.consume readerConsume Spec.ConsumeOK
    rw [consume_newest_seg hinv hn]
    simp only [Int.toNat_natCast, hw, if_true, ROut.toOut,
      hr.next (by rw [shape_length, hn])]
    rfl
  · exact (consume_exact l hinv off mc hmc hn).1

theorem consume_nil (l : Log) (hinv : Inv l) (off : Int) (mc : Nat) (hmc : 1 ≤ mc)
    (hn : off ≠ offsetNewest) {nxt : Int} (h : (l.consume off mc).2 = .ok (nxt, [])) :
    (abs l).fromOff off = [] :=
  (consume_exact l hinv off mc hmc hn).2 nxt h

end Klev
