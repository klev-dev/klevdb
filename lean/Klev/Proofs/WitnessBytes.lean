/-
Non-vacuity witnesses, byte level: concrete encodable messages (the content of the witness
log of `Witness.lean`, written out) for the codec / scan / Recover / Check theorems. Kept
apart from `Witness.lean` so that the record-level witness does not depend on the
regenerated layout constants (`Klev.Gen.Consts`).
-/
import Klev.Proofs.Codec
import Klev.Proofs.RecoverCheck
namespace Klev.Witness
open Klev

instance (m : Msg) : Decidable m.Encodable := by unfold Msg.Encodable; infer_instance

/-- The seven live messages of `Witness.wL`, written out: a repeated key, a
value-less message, holes at offsets 3 and 7. -/
def wMs : List Msg :=
  [⟨0, 10, [1], [1]⟩, ⟨1, 20, [2], [2]⟩, ⟨2, 20, [1], [3]⟩, ⟨4, 30, [6], []⟩,
   ⟨5, 30, [4], [5]⟩, ⟨6, 40, [1], [6]⟩, ⟨8, 50, [2], [8]⟩]

theorem wMs_enc : ∀ m ∈ wMs, m.Encodable := by decide +kernel

/-- A batch appended behind them. -/
def wBs : List Msg := [⟨9, 50, [7], [1, 2, 3]⟩, ⟨10, 60, [], [4]⟩]

theorem wBs_enc : ∀ m ∈ wBs, m.Encodable := by decide +kernel

/-- One more message: negative time, empty key, three value bytes. -/
def wM : Msg := ⟨11, -7, [], [9, 8, 7]⟩

theorem wM_enc : wM.Encodable := by decide +kernel

/-! ### sizes (through `render_length_logSize` / `enc_length`, not by evaluating the bytes) -/

theorem wMs_len : (render .v2 wMs).length = 273 := by
  have h := render_length_logSize .v2 wMs
  have : logSize .v2 wMs = 273 := by decide +kernel
  omega

theorem wMsBs_len : (render .v2 (wMs ++ wBs)).length = 350 := by
  have h := render_length_logSize .v2 (wMs ++ wBs)
  have : logSize .v2 (wMs ++ wBs) = 350 := by decide +kernel
  omega

theorem wBs_len : (encAll .v2 wBs).length = 77 := by
  have h1 := wMsBs_len
  rw [render_append, List.length_append, wMs_len] at h1
  omega

theorem wM_len : (enc .v2 wM).length = 39 ∧ (enc .v1 wM).length = 31 := by
  have h2 := enc_length .v2 wM
  have h1 := enc_length .v1 wM
  have : recSize .v2 wM = 39 ∧ recSize .v1 wM = 31 := by decide +kernel
  omega

theorem wMs_size : (render .v2 wMs).length < two63 := by rw [wMs_len]; decide +kernel

theorem wMsBs_size : (render .v2 (wMs ++ wBs)).length < two63 := by rw [wMsBs_len]; decide +kernel

theorem wMs_first : ∀ m ∈ wMs.head?, m.off = 0 := by decide +kernel

theorem wMsBs_first : ∀ m ∈ (wMs ++ wBs).head?, m.off = 0 := by decide +kernel

end Klev.Witness

#print axioms Klev.Witness.wMs_enc
#print axioms Klev.Witness.wBs_enc
#print axioms Klev.Witness.wM_enc
#print axioms Klev.Witness.wMs_size
#print axioms Klev.Witness.wMsBs_size
#print axioms Klev.Witness.wBs_len
#print axioms Klev.Witness.wM_len
