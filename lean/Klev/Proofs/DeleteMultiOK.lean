/-
`DeleteMulti` (delete.go): repeated `Delete` on the still-requested offsets. Each pass
rewrites the segment holding the lowest requested offset. The reported messages are exactly
the messages removed; for a set of live offsets on a read-write log every pass removes at
least the lowest requested message, so the loop ends with none of them live and no error.
-/
import Klev.Proofs.HelpersBase
import Klev.Proofs.Delete
namespace Klev

open Helpers

theorem removeAll_removeAll (live a b : List Msg) :
    Spec.removeAll (Spec.removeAll live a) b = Spec.removeAll live (a ++ b) := by
  unfold Spec.removeAll
  rw [List.filter_filter]
  apply List.filter_congr
  intro m _
  simp only [List.contains_eq_mem, List.mem_append, Bool.decide_or, Bool.not_or, Bool.and_comm]

theorem mem_removeAll {live del : List Msg} {m : Msg} :
    m ∈ Spec.removeAll live del ↔ m ∈ live ∧ m ∉ del := by
  unfold Spec.removeAll
  simp [List.mem_filter]

theorem removeAll_filter (L : List Msg) (p q : Msg → Bool) (hpq : ∀ m ∈ L, q m = !p m) :
    Spec.removeAll L (L.filter p) = L.filter q := by
  unfold Spec.removeAll
  apply List.filter_congr
  intro m hm
  rw [hpq m hm, List.contains_eq_mem]
  simp only [List.mem_filter, hm, true_and, Bool.decide_eq_true]

/-- `delete_step` read as a case distinction: an error changes nothing; a success reports
live requested messages and removes exactly them. -/
theorem delete_cases (l : Log) (hinv : Inv l) (offs : List Int) :
    Inv (l.delete offs).1 ∧
    ((∃ e, (l.delete offs).2 = .err e ∧ abs (l.delete offs).1 = abs l) ∨
     (∃ del sz, (l.delete offs).2 = .ok (del, sz) ∧ del.Sublist (abs l).live ∧
        (∀ d ∈ del, d.off ∈ offs) ∧
        (abs (l.delete offs).1).live = Spec.removeAll (abs l).live del ∧
        (abs (l.delete offs).1).next = (abs l).next ∧
        Spec.sumSizes .v1 l.opts.params del ≤ sz ∧ sz ≤ Spec.sumSizes .v2 l.opts.params del)) := by
  obtain ⟨hi, hok⟩ := delete_step l hinv offs
  refine ⟨hi, ?_⟩
  cases hr : (l.delete offs).2 with
  | err e => rw [hr] at hok; exact Or.inl ⟨e, rfl, hok.of_err⟩
  | ok p =>
    obtain ⟨del, sz⟩ := p
    rw [hr] at hok
    exact Or.inr ⟨del, sz, rfl, hok.of_ok⟩

theorem delete_pass (l : Log) (hinv : Inv l) (offs : List Int) :
    ∃ l1, Inv l1 ∧ l1.opts = l.opts ∧
    ((∃ e, l.delete offs = (l1, .err e) ∧ abs l1 = abs l) ∨
     (∃ del sz, l.delete offs = (l1, .ok (del, sz)) ∧ del.Sublist (abs l).live ∧
        (∀ d ∈ del, d.off ∈ offs) ∧ (abs l1).live = Spec.removeAll (abs l).live del ∧
        (abs l1).next = (abs l).next ∧
        Spec.sumSizes .v1 l.opts.params del ≤ sz ∧ sz ≤ Spec.sumSizes .v2 l.opts.params del)) := by
  obtain ⟨hi, hc⟩ := delete_cases l hinv offs
  refine ⟨(l.delete offs).1, hi, delete_opts l offs, ?_⟩
  rcases hc with ⟨e, he, ha⟩ | ⟨del, sz, hr, rest⟩
  · exact Or.inl ⟨e, Prod.ext rfl he, ha⟩
  · exact Or.inr ⟨del, sz, Prod.ext rfl hr, rest⟩

/-- **The pass makes progress.** On a read-write log, when the lowest requested offset is the
offset of a live message `m0`, `Delete` succeeds and reports exactly the requested records of
the segment holding `m0` — all of them, in particular `m0`. (`DeleteOK` alone allows the empty
report.) -/
theorem delete_target (l : Log) (hinv : Inv l) (hro : l.opts.readonly = false) (offs : List Int)
    (hne : offs ≠ []) (m0 : Msg) (hm0 : m0 ∈ (abs l).live) (hoff : m0.off = minOff offs) :
    ∃ (i : Nat) (hi : i < l.segs.length) (sz : Int), m0 ∈ (l.segs[i]).recs ∧
      (l.delete offs).2 = .ok ((l.segs[i]).recs.filter (fun m => offs.contains m.off), sz) := by
  have hsh := hinv.shape
  have hlen := shape_length l.segs
  have hm0nn : 0 ≤ m0.off := hsh.rec_nonneg hm0
  obtain ⟨j, hj, hmj⟩ := mem_flat (show m0 ∈ flat (shape l.segs) from hm0)
  rcases deleteTarget_spec l hinv offs hne with ⟨⟨o, ho, hneg⟩, _⟩ | ⟨_, ⟨_, hbelow⟩ | ⟨i, hres, hseg⟩⟩
  · have := minOff_le offs o ho
    omega
  · have := hbelow m0 hm0
    omega
  · -- the target is the segment that holds `m0`
    have hst := SegStart.of_isSegFor hsh hseg
    have hji : j = i := by
      rcases Nat.lt_trichotomy j i with h | h | h
      · have := hst.before j h hj m0 hmj; omega
      · exact h
      · have := hst.after j h hj
        have := hsh.lower _ (List.getElem_mem hj) m0 hmj
        omega
    subst hji
    have hi : j < l.segs.length := by rw [← hlen]; exact hj
    have hrec : m0 ∈ (l.segs[j]).recs := by
      rw [shape_getElem l.segs j hi] at hmj; exact hmj
    obtain ⟨mv, _, hdel, _⟩ := delete_at l hinv hro offs hne j hi hres
    exact ⟨j, hi, _, hrec, hdel⟩

theorem ShapeOK.mem_of_between {sh : Shape} (h : ShapeOK sh) {i : Nat} (hi : i < sh.length)
    {a b x : Msg} (ha : a ∈ (sh[i]).2) (hb : b ∈ (sh[i]).2) (hx : x ∈ flat sh)
    (hax : a.off ≤ x.off) (hxb : x.off ≤ b.off) : x ∈ (sh[i]).2 := by
  obtain ⟨j, hj, hxj⟩ := mem_flat hx
  rcases Nat.lt_trichotomy j i with hlt | rfl | hgt
  · have := h.rec_lt_base hlt hi hxj
    have := h.lower _ (List.getElem_mem hi) a ha
    omega
  · exact hxj
  · have := h.rec_lt_base hgt hj hb
    have := h.lower _ (List.getElem_mem hj) x hxj
    omega

/-- The report of a pass is downward closed among the requested live messages: together with
`m0 ∈ del` it is a non-empty initial run of them (segments hold contiguous offset ranges). -/
theorem delete_run (l : Log) (hinv : Inv l) (hro : l.opts.readonly = false) (offs : List Int)
    (hne : offs ≠ []) (m0 : Msg) (hm0 : m0 ∈ (abs l).live) (hoff : m0.off = minOff offs) :
    ∃ del sz, (l.delete offs).2 = .ok (del, sz) ∧ m0 ∈ del ∧
      ∀ d ∈ del, ∀ x ∈ (abs l).live, x.off ∈ offs → x.off ≤ d.off → x ∈ del := by
  obtain ⟨i, hi, sz, hrec, hres⟩ := delete_target l hinv hro offs hne m0 hm0 hoff
  have hil : i < (shape l.segs).length := by rw [shape_length]; exact hi
  have hsi : ((shape l.segs)[i]).2 = (l.segs[i]).recs := by rw [shape_getElem l.segs i hi]
  refine ⟨_, sz, hres, List.mem_filter.mpr ⟨hrec, by rw [hoff]; simpa using minOff_mem offs hne⟩, ?_⟩
  intro d hd x hx hxo hxd
  have hxi := hinv.shape.mem_of_between hil (hsi ▸ hrec) (hsi ▸ (List.mem_filter.mp hd).1) hx
    (by rw [hoff]; exact minOff_le offs x.off hxo) hxd
  exact List.mem_filter.mpr ⟨hsi ▸ hxi, List.contains_iff_mem.mpr hxo⟩

theorem delete_lowest (l : Log) (hinv : Inv l) (hro : l.opts.readonly = false) (offs : List Int)
    (hne : offs ≠ []) (m0 : Msg) (hm0 : m0 ∈ (abs l).live) (hoff : m0.off = minOff offs) :
    ∃ del sz, (l.delete offs).2 = .ok (del, sz) ∧ m0 ∈ del := by
  obtain ⟨del, sz, h1, h2, _⟩ := delete_run l hinv hro offs hne m0 hm0 hoff
  exact ⟨del, sz, h1, h2⟩

/-- `l` is `l0` with exactly the messages `msgs` removed; they were live and requested. -/
structure Removed (l0 l : Log) (offs : List Int) (msgs : List Msg) : Prop where
  inv : Inv l
  live : (abs l).live = Spec.removeAll (abs l0).live msgs
  next : (abs l).next = (abs l0).next
  sub : ∀ d ∈ msgs, d ∈ (abs l0).live ∧ d.off ∈ offs
  nodup : msgs.Nodup
  opts : l.opts = l0.opts

theorem Removed.of_loaded {l l1 : Log} (h : Loaded l l1) (offs : List Int) : Removed l l1 offs [] :=
  ⟨h.inv, by rw [h.abs, removeAll_nil], by rw [h.abs], fun _ hd => (nomatch hd), List.nodup_nil, h.opts⟩

theorem Removed.after_loaded {l l1 l2 : Log} {offs : List Int} {msgs : List Msg} (h : Loaded l l1)
    (k : Removed l1 l2 offs msgs) : Removed l l2 offs msgs :=
  ⟨k.inv, h.abs ▸ k.live, h.abs ▸ k.next, fun d hd => h.abs ▸ k.sub d hd, k.nodup, k.opts.trans h.opts⟩

theorem Removed.refl {l : Log} (h : Inv l) (offs : List Int) : Removed l l offs [] :=
  Removed.of_loaded (Loaded.refl h) offs

theorem pairwise_off_nodup {l : List Msg} (h : l.Pairwise (fun a b => a.off < b.off)) : l.Nodup := by
  unfold List.Nodup
  apply h.imp
  intro a b hab heq
  rw [heq] at hab
  exact Int.lt_irrefl _ hab

theorem Removed.same {l0 l l1 : Log} {offs : List Int} {accM : List Msg} (h : Removed l0 l offs accM)
    (hi : Inv l1) (ha : abs l1 = abs l) (ho : l1.opts = l.opts) : Removed l0 l1 offs accM :=
  ⟨hi, by rw [ha]; exact h.live, by rw [ha]; exact h.next, h.sub, h.nodup, ho.trans h.opts⟩

theorem Removed.step {l0 l l1 : Log} {offs remaining : List Int} {accM del : List Msg}
    (h : Removed l0 l offs accM) (hrem : ∀ o ∈ remaining, o ∈ offs) (hi : Inv l1)
    (ho : l1.opts = l.opts) (hsub : del.Sublist (abs l).live) (hreq : ∀ d ∈ del, d.off ∈ remaining)
    (hlive : (abs l1).live = Spec.removeAll (abs l).live del) (hnext : (abs l1).next = (abs l).next) :
    Removed l0 l1 offs (accM ++ del) := by
  have hdl : ∀ d ∈ del, d ∈ (abs l0).live ∧ d ∉ accM := fun d hd =>
    mem_removeAll.mp (h.live ▸ hsub.subset hd)
  refine ⟨hi, by rw [hlive, h.live, removeAll_removeAll], by rw [hnext, h.next], ?_, ?_,
    ho.trans h.opts⟩
  · intro d hd
    rcases List.mem_append.mp hd with hd | hd
    · exact h.sub d hd
    · exact ⟨(hdl d hd).1, hrem _ (hreq d hd)⟩
  · rw [List.nodup_append]
    exact ⟨h.nodup, pairwise_off_nodup ((abs_wf l h.inv).1.sublist hsub),
      fun a ha b hb hab => (hdl b hb).2 (hab ▸ ha)⟩

theorem sumSizes_append (v : Ver) (p : Params) (a b : List Msg) :
    Spec.sumSizes v p (a ++ b) = Spec.sumSizes v p a + Spec.sumSizes v p b := by
  unfold Spec.sumSizes
  rw [List.map_append, List.sum_append_int]

theorem deleteMultiLoop_safe (l0 : Log) (offs : List Int) :
    ∀ (fuel : Nat) (l : Log) (remaining : List Int) (accM : List Msg) (accS : Int),
      Removed l0 l offs accM → (∀ o ∈ remaining, o ∈ offs) →
      Spec.sumSizes .v1 l0.opts.params accM ≤ accS → accS ≤ Spec.sumSizes .v2 l0.opts.params accM →
      Removed l0 (deleteMultiLoop fuel l remaining accM accS).1 offs
        (deleteMultiLoop fuel l remaining accM accS).2.msgs ∧
      Spec.sumSizes .v1 l0.opts.params (deleteMultiLoop fuel l remaining accM accS).2.msgs ≤
        (deleteMultiLoop fuel l remaining accM accS).2.size ∧
      (deleteMultiLoop fuel l remaining accM accS).2.size ≤
        Spec.sumSizes .v2 l0.opts.params (deleteMultiLoop fuel l remaining accM accS).2.msgs := by
  intro fuel
  induction fuel with
  | zero => intro l remaining accM accS h _ h1 h2; unfold deleteMultiLoop; exact ⟨h, h1, h2⟩
  | succ fuel ih =>
    intro l remaining accM accS h hrem h1 h2
    unfold deleteMultiLoop
    by_cases hem : remaining.isEmpty = true
    · rw [if_pos hem]; exact ⟨h, h1, h2⟩
    · rw [if_neg hem]
      obtain ⟨l1, hi, ho, hc⟩ := delete_pass l h.inv remaining
      rcases hc with ⟨e, hr, ha⟩ | ⟨del, sz, hr, hsub, hreq, hlive, hnext, hs1, hs2⟩
      · rw [hr]
        exact ⟨h.same hi ha ho, h1, h2⟩
      · rw [hr]
        dsimp only
        have hst := h.step hrem hi ho hsub hreq hlive hnext
        by_cases hde : del.isEmpty = true
        · rw [if_pos hde]
          obtain rfl : del = [] := List.isEmpty_iff.mp hde
          rw [List.append_nil] at hst
          exact ⟨hst, h1, h2⟩
        · rw [if_neg hde]
          rw [h.opts] at hs1 hs2
          exact ih l1 _ _ _ hst (fun o ho' => hrem o (List.mem_filter.mp ho').1)
            (by rw [sumSizes_append]; exact Int.add_le_add h1 hs1)
            (by rw [sumSizes_append]; exact Int.add_le_add h2 hs2)

theorem deleteMultiLoop_safe_start (l0 l : Log) (h : Removed l0 l offs []) (fuel : Nat) :
    Removed l0 (deleteMultiLoop fuel l offs.eraseDups [] 0).1 offs
      (deleteMultiLoop fuel l offs.eraseDups [] 0).2.msgs ∧
    Spec.sumSizes .v1 l0.opts.params (deleteMultiLoop fuel l offs.eraseDups [] 0).2.msgs ≤
      (deleteMultiLoop fuel l offs.eraseDups [] 0).2.size ∧
    (deleteMultiLoop fuel l offs.eraseDups [] 0).2.size ≤
      Spec.sumSizes .v2 l0.opts.params (deleteMultiLoop fuel l offs.eraseDups [] 0).2.msgs :=
  deleteMultiLoop_safe l0 offs fuel l offs.eraseDups [] 0 h (fun _ ho => List.mem_eraseDups.mp ho)
    (Int.le_refl _) (Int.le_refl _)

theorem sorted_ext (A B : List Msg) (hA : A.Pairwise (fun a b => a.off < b.off))
    (hB : B.Pairwise (fun a b => a.off < b.off)) (h : ∀ x, x ∈ A ↔ x ∈ B) : A = B :=
  ((List.perm_ext_iff_of_nodup (pairwise_off_nodup hA) (pairwise_off_nodup hB)).mpr h).eq_of_pairwise
    (fun _ _ _ _ h1 h2 => absurd h2 (Int.lt_asymm h1)) hA hB

/-- The test by which a pass that reported `D` keeps an offset on the list. -/
theorem not_contains_offs {D : List Msg} {o : Int} :
    (!(D.map (·.off)).contains o) = true ↔ ∀ d ∈ D, d.off ≠ o := by
  rw [Bool.not_eq_true', List.contains_eq_mem, decide_eq_false_iff_not, List.mem_map]
  exact ⟨fun h d hd he => h ⟨d, hd, he⟩, fun h ⟨d, hd, he⟩ => h d hd he⟩

/-- One pass, on lists: `D` is the report, an initial run (`hrun`) of the requested messages
of `L`. -/
theorem filter_requested_split {L D : List Msg} {rem : List Int}
    (hp : L.Pairwise (fun a b => a.off < b.off)) (hD : D.Sublist L) (hreq : ∀ d ∈ D, d.off ∈ rem)
    (hrun : ∀ d ∈ D, ∀ x ∈ L, x.off ∈ rem → x.off ≤ d.off → x ∈ D) :
    L.filter (fun m => rem.contains m.off) =
      D ++ (Spec.removeAll L D).filter
        (fun m => (rem.filter (fun o => !(D.map (·.off)).contains o)).contains m.off) := by
  have hmem : ∀ m, m ∈ (Spec.removeAll L D).filter
      (fun m => (rem.filter (fun o => !(D.map (·.off)).contains o)).contains m.off) ↔
      m ∈ L ∧ m ∉ D ∧ m.off ∈ rem := by
    intro m
    rw [List.mem_filter, mem_removeAll, List.contains_eq_mem, decide_eq_true_eq, List.mem_filter,
      not_contains_offs]
    constructor
    · rintro ⟨⟨h1, h2⟩, h3, -⟩; exact ⟨h1, h2, h3⟩
    · rintro ⟨h1, h2, h3⟩
      exact ⟨⟨h1, h2⟩, h3, fun d hd hdo => h2 (eq_of_off_eq hp (hD.subset hd) h1 hdo ▸ hd)⟩
  apply sorted_ext _ _ (hp.filter _)
  · rw [List.pairwise_append]
    refine ⟨hp.sublist hD, (hp.sublist List.filter_sublist).sublist List.filter_sublist, ?_⟩
    intro d hd x hx
    obtain ⟨hx1, hx2, hx3⟩ := (hmem x).mp hx
    exact Int.lt_of_not_ge (fun hle => hx2 (hrun d hd x hx1 hx3 hle))
  · intro m
    rw [List.mem_append, hmem, List.mem_filter, List.contains_eq_mem, decide_eq_true_eq]
    constructor
    · rintro ⟨h1, h2⟩
      by_cases hm : m ∈ D
      · exact Or.inl hm
      · exact Or.inr ⟨h1, hm, h2⟩
    · rintro (hm | ⟨h1, _, h3⟩)
      · exact ⟨hD.subset hm, hreq m hm⟩
      · exact ⟨h1, h3⟩

theorem deleteMultiLoop_live :
    ∀ (fuel : Nat) (l : Log) (remaining : List Int) (accM : List Msg) (accS : Int),
      Inv l → l.opts.readonly = false →
      (∀ o ∈ remaining, ∃ m ∈ (abs l).live, m.off = o) → remaining.length < fuel →
      (deleteMultiLoop fuel l remaining accM accS).2.err = none ∧
      (deleteMultiLoop fuel l remaining accM accS).2.msgs =
        accM ++ (abs l).live.filter (fun m => remaining.contains m.off) := by
  intro fuel
  induction fuel with
  | zero => intro _ _ _ _ _ _ _ hf; exact absurd hf (Nat.not_lt_zero _)
  | succ fuel ih =>
    intro l remaining accM accS hinv hro hlive hf
    unfold deleteMultiLoop
    by_cases hem : remaining = []
    · subst hem
      rw [List.isEmpty_nil, if_pos rfl]
      refine ⟨rfl, ?_⟩
      rw [List.filter_eq_nil_iff.mpr (by intro m _; simp), List.append_nil]
    · rw [List.isEmpty_eq_false_iff.mpr hem, if_neg Bool.false_ne_true]
      -- the lowest requested offset is live, so the pass reports an initial run holding it
      obtain ⟨m0, hm0, hm0o⟩ := hlive _ (minOff_mem remaining hem)
      obtain ⟨del, sz, hres, hm0d, hrun⟩ := delete_run l hinv hro remaining hem m0 hm0 hm0o
      obtain ⟨l1, hi, ho, hc⟩ := delete_pass l hinv remaining
      rcases hc with ⟨e, hr, _⟩ | ⟨del', sz', hr, hsub, hreq, hlive1, _⟩
      · rw [hr] at hres; cases hres
      · rw [hr] at hres
        obtain ⟨rfl, rfl⟩ := Prod.mk.inj (Out.ok.inj hres)
        rw [hr]
        simp only [List.isEmpty_eq_false_iff.mpr (List.ne_nil_of_mem hm0d), Bool.false_eq_true,
          if_false]
        obtain ⟨ih1, ih2⟩ := ih l1
          (remaining.filter (fun o => !(del'.map (·.off)).contains o)) (accM ++ del') (accS + sz') hi
          (by rw [ho]; exact hro)
          (by
            intro o ho'
            obtain ⟨ho1, ho2⟩ := List.mem_filter.mp ho'
            obtain ⟨m, hm, hmo⟩ := hlive o ho1
            exact ⟨m, by rw [hlive1, mem_removeAll]; exact ⟨hm, fun hmd =>
              not_contains_offs.mp ho2 m hmd hmo⟩, hmo⟩)
          (by
            have : (remaining.filter (fun o => !(del'.map (·.off)).contains o)).length <
                remaining.length :=
              List.length_filter_lt_length_iff_exists.mpr
                ⟨minOff remaining, minOff_mem remaining hem, fun hc => not_contains_offs.mp hc m0 hm0d hm0o⟩
            omega)
        refine ⟨ih1, ?_⟩
        rw [ih2, hlive1, List.append_assoc,
          ← filter_requested_split (abs_wf l hinv).1 hsub hreq hrun]

theorem eraseDups_length_le : ∀ (n : Nat) (l : List Int), l.length ≤ n → l.eraseDups.length ≤ l.length
  | _, [], _ => by simp
  | 0, a :: l, h => by simp at h
  | n + 1, a :: l, h => by
    rw [List.eraseDups_cons]
    simp only [List.length_cons] at h ⊢
    have h1 : (l.filter (fun b => !b == a)).length ≤ l.length := List.length_filter_le _ _
    have := eraseDups_length_le n (l.filter (fun b => !b == a)) (by omega)
    omega

theorem deleteMulti_live (l : Log) (h : Inv l) (hro : l.opts.readonly = false) (offs : List Int)
    (hlive : ∀ o ∈ offs, ∃ m ∈ (abs l).live, m.off = o) :
    (deleteMulti l offs).2.err = none ∧
    (deleteMulti l offs).2.msgs = (abs l).live.filter (fun m => offs.contains m.off) := by
  obtain ⟨he, hm⟩ := deleteMultiLoop_live (offs.length + 1) l offs.eraseDups [] 0 h hro
    (fun o ho => hlive o (List.mem_eraseDups.mp ho))
    (Nat.lt_succ_of_le (eraseDups_length_le offs.length offs (Nat.le_refl _)))
  refine ⟨he, hm.trans ?_⟩
  rw [List.nil_append]
  apply List.filter_congr
  intro m _
  simp only [List.contains_eq_mem, List.mem_eraseDups]

/-- **DeleteMulti.** For every log satisfying the invariant and every offset list: the
invariant is kept; the reported messages are exactly the messages removed (the new content is
the old content minus them, the next offset is unchanged), each was live and requested, none
is reported twice — whether or not a pass failed. On a read-write log, when every requested
offset is the offset of a live message, no pass fails and afterwards none of them is live. -/
theorem deleteMulti_spec (l : Log) (h : Inv l) (offs : List Int) :
    let r := Helpers.deleteMulti l offs
    Inv r.1 ∧
    ((abs r.1).live = Spec.removeAll (abs l).live r.2.msgs ∧ (abs r.1).next = (abs l).next ∧
      (∀ d ∈ r.2.msgs, d ∈ (abs l).live ∧ d.off ∈ offs) ∧ r.2.msgs.Nodup ∧
      Spec.sumSizes .v1 l.opts.params r.2.msgs ≤ r.2.size ∧
      r.2.size ≤ Spec.sumSizes .v2 l.opts.params r.2.msgs) ∧
    (l.opts.readonly = false → (∀ o ∈ offs, ∃ m ∈ (abs l).live, m.off = o) →
      r.2.err = none ∧ ∀ m ∈ (abs r.1).live, m.off ∉ offs) := by
  obtain ⟨hs, hsz⟩ : Removed l (deleteMulti l offs).1 offs (deleteMulti l offs).2.msgs ∧ _ :=
    deleteMultiLoop_safe_start l l (Removed.refl h offs) _
  refine ⟨hs.inv, ⟨hs.live, hs.next, hs.sub, hs.nodup, hsz.1, hsz.2⟩, ?_⟩
  intro hro hlive
  obtain ⟨h1, h2⟩ := deleteMulti_live l h hro offs hlive
  refine ⟨h1, fun m hm ho => ?_⟩
  rw [hs.live, mem_removeAll, h2, List.mem_filter] at hm
  exact hm.2 ⟨hm.1, List.contains_iff_mem.mpr ho⟩

/-- Closed form of the completed case: exactly the messages with a requested offset are gone. -/
theorem deleteMulti_complete (l : Log) (h : Inv l) (hro : l.opts.readonly = false) (offs : List Int)
    (hlive : ∀ o ∈ offs, ∃ m ∈ (abs l).live, m.off = o) :
    let r := Helpers.deleteMulti l offs
    Inv r.1 ∧ r.2.err = none ∧
    (abs r.1).live = (abs l).live.filter (fun m => !offs.contains m.off) ∧
    (abs r.1).next = (abs l).next ∧
    (∀ d, d ∈ r.2.msgs ↔ d ∈ (abs l).live ∧ d.off ∈ offs) ∧
    r.2.msgs = (abs l).live.filter (fun m => offs.contains m.off) := by
  have hs : Removed l (deleteMulti l offs).1 offs (deleteMulti l offs).2.msgs :=
    (deleteMultiLoop_safe_start l l (Removed.refl h offs) _).1
  obtain ⟨he, hmsgs⟩ := deleteMulti_live l h hro offs hlive
  refine ⟨hs.inv, he, ?_, hs.next, ?_, hmsgs⟩
  · rw [hs.live, hmsgs]
    exact removeAll_filter _ _ _ (fun _ _ => rfl)
  · intro d
    rw [hmsgs, List.mem_filter, List.contains_eq_mem, decide_eq_true_eq]

theorem single_delete_removed (l : Log) (h : Inv l) (offs : List Int) :
    Removed l (single (l.delete offs)).1 offs (single (l.delete offs)).2.msgs := by
  obtain ⟨l1, hi, ho, hc⟩ := delete_pass l h offs
  rcases hc with ⟨e, hr, ha⟩ | ⟨del, sz, hr, hsub, hreq, hlive, hnext, _⟩
  · rw [hr]
    exact (Removed.refl h offs).same hi ha ho
  · rw [hr]
    exact List.nil_append del ▸ (Removed.refl h offs).step (fun o ho => ho) hi ho hsub hreq hlive hnext

/-- What `thenDelete` removed is what it reports, for both modes, after a `Find*` that only
loaded indexes. -/
theorem thenDelete_removed (l l1 : Log) (hld : Loaded l l1) (multi : Bool) (offs : List Int) :
    Removed l (thenDelete multi (l1, .ok offs)).1 offs (thenDelete multi (l1, .ok offs)).2.msgs := by
  cases multi with
  | true => exact (deleteMultiLoop_safe_start l l1 (Removed.of_loaded hld offs) _).1
  | false => exact (single_delete_removed l1 hld.inv offs).after_loaded hld

theorem thenDelete_sel (l l1 : Log) (hld : Loaded l l1) (multi : Bool) (offs : List Int)
    (Sel : List Msg) (hsel : ∀ x ∈ Sel, x ∈ (abs l).live) (hoffs : ∀ o ∈ offs, o ∈ Spec.offsOf Sel) :
    let r := thenDelete multi (l1, .ok offs)
    Inv r.1 ∧ (abs r.1).live = Spec.removeAll (abs l).live r.2.msgs ∧ (abs r.1).next = (abs l).next ∧
    r.2.msgs.Nodup ∧ ∀ d ∈ r.2.msgs, d ∈ Sel := by
  have hrem := thenDelete_removed l l1 hld multi offs
  have hwf : (abs l).live.Pairwise (fun a b => a.off < b.off) := hld.abs ▸ (abs_wf l1 hld.inv).1
  exact ⟨hrem.inv, hrem.live, hrem.next, hrem.nodup, fun d hd =>
    (off_mem_offsOf_iff hwf hsel (hrem.sub d hd).1).mp (hoffs _ (hrem.sub d hd).2)⟩

/-- `thenDelete true` after a `Find*` that only loaded indexes and selected live offsets, on a
read-write log: no error, and exactly the selected messages are gone. -/
theorem thenDelete_multi_complete (l l1 : Log) (hld : Loaded l l1) (hro : l.opts.readonly = false)
    (offs : List Int) (hlive : ∀ o ∈ offs, ∃ m ∈ (abs l).live, m.off = o) :
    let r := thenDelete true (l1, .ok offs)
    Inv r.1 ∧ r.2.err = none ∧
    (abs r.1).live = (abs l).live.filter (fun m => !offs.contains m.off) ∧
    (abs r.1).next = (abs l).next ∧
    (∀ d, d ∈ r.2.msgs ↔ d ∈ (abs l).live ∧ d.off ∈ offs) ∧
    r.2.msgs = (abs l).live.filter (fun m => offs.contains m.off) := by
  have := deleteMulti_complete l1 hld.inv (by rw [hld.opts]; exact hro) offs
    (by rw [hld.abs]; exact hlive)
  rw [hld.abs] at this
  exact this

theorem filter_offs_of_sublist {L Sel : List Msg} (hp : L.Pairwise (fun a b => a.off < b.off))
    (hs : Sel.Sublist L) {offs : List Int} (hss : Spec.SameSet offs (Spec.offsOf Sel)) :
    L.filter (fun m => offs.contains m.off) = Sel := by
  apply sorted_ext _ _ (hp.filter _) (hp.sublist hs)
  intro m
  rw [List.mem_filter, List.contains_eq_mem, decide_eq_true_eq]
  constructor
  · rintro ⟨hm, ho⟩; exact (off_mem_offsOf_iff hp (fun _ hx => hs.subset hx) hm).mp (hss.1 _ ho)
  · intro hm; exact ⟨hs.subset hm, hss.2 _ (List.mem_map.mpr ⟨m, hm, rfl⟩)⟩

/-- The `…Multi` helpers in one statement: `Sel` is what the `Find*` selected. The result is
named by an equation: the callers' goals have it as a `let` variable, and unifying `r.2.err` with
a projection of the call itself unfolds `deleteMulti`. -/
theorem thenDelete_multi_exact (l l1 : Log) (hld : Loaded l l1)
    (hro : l.opts.readonly = false) (offs : List Int) (Sel : List Msg)
    (hs : Sel.Sublist (abs l).live) (hss : Spec.SameSet offs (Spec.offsOf Sel))
    (r : Log × MultiOut) (hr : r = thenDelete true (l1, .ok offs)) :
    Inv r.1 ∧ r.2.err = none ∧ (abs r.1).next = (abs l).next ∧ r.2.msgs = Sel ∧
    (abs r.1).live = Spec.removeAll (abs l).live Sel := by
  subst hr
  obtain ⟨hi, he, _, hn, _, hm⟩ := thenDelete_multi_complete l l1 hld hro offs (fun o ho => by
    obtain ⟨m, hm, hmo⟩ := List.mem_map.mp (hss.1 o ho)
    exact ⟨m, hs.subset hm, hmo⟩)
  have hmsgs := hm.trans (filter_offs_of_sublist (hld.abs ▸ (abs_wf l1 hld.inv).1) hs hss)
  refine ⟨hi, he, hn, hmsgs, ?_⟩
  rw [← hmsgs]
  exact (thenDelete_removed l l1 hld true offs).live

theorem thenDelete_err (l1 : Log) (e : Err) (multi : Bool) :
    thenDelete multi (l1, .err e) = (l1, ⟨some e, [], 0⟩) := rfl

end Klev

#print axioms Klev.delete_cases
#print axioms Klev.delete_target
#print axioms Klev.delete_lowest
#print axioms Klev.deleteMultiLoop_safe
#print axioms Klev.deleteMultiLoop_live
#print axioms Klev.delete_run
#print axioms Klev.deleteMulti_spec
#print axioms Klev.deleteMulti_complete
#print axioms Klev.single_delete_removed
#print axioms Klev.thenDelete_removed
#print axioms Klev.thenDelete_multi_complete
