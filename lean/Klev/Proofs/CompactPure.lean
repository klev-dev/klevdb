/-
The pure (L0) side of compaction: what `FindUpdates` / `FindDeletes` select, that removing
any subset of either selection keeps `latest` of every key, and that the folds of the two loops
compute the selections.
-/
import Klev.Proofs.HelpersBase
import Klev.Proofs.Delete
namespace Klev

namespace Spec

theorem contains_msg_iff (l : List Msg) (m : Msg) : l.contains m = true ↔ m ∈ l := by
  simp

theorem not_contains_msg_iff (l : List Msg) (m : Msg) : (!l.contains m) = true ↔ m ∉ l := by
  simp

theorem hasLaterSameKey_cons (m : Msg) (ms : List Msg) :
    hasLaterSameKey (m :: ms) =
      (if ms.any (fun m' => m'.key == m.key) then m :: hasLaterSameKey ms
       else hasLaterSameKey ms) := rfl

theorem firstOfKeyNoValue_cons (m : Msg) (ms : List Msg) (seen : List (List UInt8)) :
    firstOfKeyNoValue (m :: ms) seen =
      (if seen.contains m.key then firstOfKeyNoValue ms seen
       else if m.val = [] then m :: firstOfKeyNoValue ms (m.key :: seen)
       else firstOfKeyNoValue ms (m.key :: seen)) := rfl

theorem any_key_iff (m : Msg) (ms : List Msg) :
    ms.any (fun m' => m'.key == m.key) = true ↔ ∃ m' ∈ ms, m'.key = m.key := by
  rw [List.any_eq_true]
  constructor
  · rintro ⟨m', hm', hk⟩; exact ⟨m', hm', eq_of_beq hk⟩
  · rintro ⟨m', hm', hk⟩; exact ⟨m', hm', beq_iff_eq.mpr hk⟩

theorem hasLaterSameKey_sublist : ∀ L : List Msg, (hasLaterSameKey L).Sublist L
  | [] => List.Sublist.slnil
  | m :: ms => by
    rw [hasLaterSameKey_cons]
    split
    · exact (hasLaterSameKey_sublist ms).cons_cons m
    · exact (hasLaterSameKey_sublist ms).cons m

theorem firstOfKeyNoValue_sublist : ∀ (L : List Msg) (seen : List (List UInt8)),
    (firstOfKeyNoValue L seen).Sublist L
  | [], _ => List.Sublist.slnil
  | m :: ms, seen => by
    rw [firstOfKeyNoValue_cons]
    split
    · exact (firstOfKeyNoValue_sublist ms seen).cons m
    · split
      · exact (firstOfKeyNoValue_sublist ms _).cons_cons m
      · exact (firstOfKeyNoValue_sublist ms _).cons m

theorem mem_hasLaterSameKey_cons {m d : Msg} {ms : List Msg} :
    d ∈ hasLaterSameKey (m :: ms) ↔ (d = m ∧ ∃ m' ∈ ms, m'.key = m.key) ∨ d ∈ hasLaterSameKey ms := by
  rw [hasLaterSameKey_cons, ← any_key_iff]
  split <;> simp [*]

theorem mem_hasLaterSameKey_iff {L : List Msg} (hp : L.Pairwise (fun a b => a.off < b.off)) {d : Msg} :
    d ∈ hasLaterSameKey L ↔ d ∈ L ∧ ∃ m ∈ L, m.key = d.key ∧ d.off < m.off := by
  induction L with
  | nil => simp [hasLaterSameKey]
  | cons m ms ih =>
    rw [List.pairwise_cons] at hp
    rw [mem_hasLaterSameKey_cons, ih hp.2]
    constructor
    · rintro (⟨rfl, m', hm', hk⟩ | ⟨hd, m', hm', h⟩)
      · exact ⟨List.mem_cons_self, m', List.mem_cons_of_mem _ hm', hk, hp.1 m' hm'⟩
      · exact ⟨List.mem_cons_of_mem _ hd, m', List.mem_cons_of_mem _ hm', h⟩
    · rintro ⟨hd, m', hm', hk, hlt⟩
      -- the later message is not the head, which has the lowest offset
      have hm'ms : m' ∈ ms := by
        rcases List.mem_cons.mp hm' with rfl | h
        · rcases List.mem_cons.mp hd with rfl | hd
          · exact absurd hlt (Int.lt_irrefl _)
          · exact absurd hlt (Int.lt_asymm (hp.1 d hd))
        · exact h
      rcases List.mem_cons.mp hd with rfl | hd
      · exact Or.inl ⟨rfl, m', hm'ms, hk⟩
      · exact Or.inr ⟨hd, m', hm'ms, hk, hlt⟩

theorem mem_hasLaterSameKey {L : List Msg} (hp : L.Pairwise (fun a b => a.off < b.off)) {d : Msg}
    (hd : d ∈ hasLaterSameKey L) : d ∈ L ∧ ∃ m ∈ L, m.key = d.key ∧ d.off < m.off :=
  (mem_hasLaterSameKey_iff hp).mp hd

theorem mem_firstOfKeyNoValue_seen (L : List Msg) (seen : List (List UInt8))
    (hp : L.Pairwise (fun a b => a.off < b.off)) (d : Msg) (hd : d ∈ firstOfKeyNoValue L seen) :
    d ∈ L ∧ d.val = [] ∧ d.key ∉ seen ∧ ∀ m ∈ L, m.key = d.key → d.off ≤ m.off := by
  induction L generalizing seen with
  | nil => simp [firstOfKeyNoValue] at hd
  | cons m ms ih =>
    rw [List.pairwise_cons] at hp
    -- selected from the tail, which is scanned with a `seen'` holding `seen` and the head's key
    have htail : ∀ seen', (∀ k ∈ seen, k ∈ seen') → m.key ∈ seen' → d ∈ firstOfKeyNoValue ms seen' →
        d ∈ m :: ms ∧ d.val = [] ∧ d.key ∉ seen ∧ ∀ m' ∈ m :: ms, m'.key = d.key → d.off ≤ m'.off := by
      intro seen' hsub hmk hd
      obtain ⟨h1, h2, h3, h4⟩ := ih seen' hp.2 hd
      refine ⟨List.mem_cons_of_mem _ h1, h2, fun h => h3 (hsub _ h), ?_⟩
      intro m' hm' hk
      rcases List.mem_cons.mp hm' with rfl | hm'
      · exact absurd (hk ▸ hmk) h3
      · exact h4 m' hm' hk
    rw [firstOfKeyNoValue_cons] at hd
    by_cases hc : seen.contains m.key = true
    · rw [if_pos hc] at hd
      exact htail seen (fun _ h => h) (List.contains_iff_mem.mp hc) hd
    · have hcons := htail (m.key :: seen) (fun _ h => List.mem_cons_of_mem _ h) List.mem_cons_self
      rw [if_neg hc] at hd
      by_cases hv : m.val = []
      · rw [if_pos hv] at hd
        rcases List.mem_cons.mp hd with rfl | hd
        · refine ⟨List.mem_cons_self, hv, fun hs => hc (List.contains_iff_mem.mpr hs), ?_⟩
          intro m' hm' _
          rcases List.mem_cons.mp hm' with rfl | hm'
          · exact Int.le_refl _
          · exact Int.le_of_lt (hp.1 m' hm')
        · exact hcons hd
      · rw [if_neg hv] at hd
        exact hcons hd

theorem mem_firstOfKeyNoValue {L : List Msg} (hp : L.Pairwise (fun a b => a.off < b.off)) {d : Msg}
    (hd : d ∈ firstOfKeyNoValue L []) :
    d ∈ L ∧ d.val = [] ∧ ∀ m ∈ L, m.key = d.key → d.off ≤ m.off := by
  obtain ⟨h1, h2, _, h4⟩ := mem_firstOfKeyNoValue_seen L [] hp d hd
  exact ⟨h1, h2, h4⟩

theorem withKey_removeAll (live del : List Msg) (k : List UInt8) :
    withKey (removeAll live del) k = (withKey live k).filter (fun m => !del.contains m) := by
  unfold withKey removeAll
  rw [List.filter_filter, List.filter_filter]
  apply List.filter_congr
  intro x _
  exact Bool.and_comm _ _

theorem mem_withKey {ms : List Msg} {k : List UInt8} {m : Msg} :
    m ∈ withKey ms k ↔ m ∈ ms ∧ m.key = k := by
  unfold withKey; simp [List.mem_filter]

theorem withKey_pairwise {ms : List Msg} (h : ms.Pairwise (fun a b => a.off < b.off))
    (k : List UInt8) : (withKey ms k).Pairwise (fun a b => a.off < b.off) := h.filter _

/-- The common core: if the last message of key `k` is removed only when it has no value and is
also the oldest of its key, `latest k` does not change. -/
theorem latest_removeAll_core (s s' : Spec) (hwf : WF s) (del : List Msg)
    (hlive : s'.live = removeAll s.live del) (k : List UInt8)
    (h : ∀ m, (withKey s.live k).getLast? = some m → m ∈ del →
      m.val = [] ∧ ∀ x ∈ withKey s.live k, m.off ≤ x.off) :
    latest s' k = latest s k := by
  have hpw := withKey_pairwise hwf.1 k
  unfold latest
  rw [hlive, withKey_removeAll]
  cases hl : (withKey s.live k).getLast? with
  | none =>
    have : withKey s.live k = [] := List.getLast?_eq_none_iff.mp hl
    rw [this]; rfl
  | some m =>
    by_cases hm : m ∈ del
    · obtain ⟨hv, hmin⟩ := h m hl hm
      have hmax := getLast_off_max hpw hl
      have hmk : m ∈ withKey s.live k := List.mem_of_getLast? hl
      have hnil : (withKey s.live k).filter (fun m => !del.contains m) = [] := by
        rw [List.filter_eq_nil_iff]
        intro x hx
        rw [eq_of_off_eq hpw hx hmk (Int.le_antisymm (hmax x hx) (hmin x hx))]
        exact fun hc => (not_contains_msg_iff del m).mp hc hm
      rw [hnil]
      simp only [hv, if_true]
      rfl
    · rw [filter_getLast_of_last _ _ m hl ((not_contains_msg_iff del m).mpr hm)]

theorem latest_removeAll_of_later (s s' : Spec) (hwf : WF s) (del : List Msg)
    (hlive : s'.live = removeAll s.live del)
    (hdel : ∀ d ∈ del, ∃ m ∈ s.live, m.key = d.key ∧ d.off < m.off) :
    ∀ k, latest s' k = latest s k := by
  intro k
  apply latest_removeAll_core s s' hwf del hlive k
  intro m hl hm
  exfalso
  obtain ⟨m', hm', hk, hlt⟩ := hdel m hm
  have hmk : m ∈ withKey s.live k := List.mem_of_getLast? hl
  have hm'k : m' ∈ withKey s.live k := mem_withKey.mpr ⟨hm', by rw [hk]; exact (mem_withKey.mp hmk).2⟩
  exact Int.not_lt.mpr (getLast_off_max (withKey_pairwise hwf.1 k) hl m' hm'k) hlt

/-- If such a message is also the last of its key, `latest` was `none` before (value-less means
absent) and the key has no message afterwards: `none` again. -/
theorem latest_removeAll_of_first_novalue (s s' : Spec) (hwf : WF s) (del : List Msg)
    (hlive : s'.live = removeAll s.live del)
    (hdel : ∀ d ∈ del, d ∈ s.live ∧ d.val = [] ∧ ∀ m ∈ s.live, m.key = d.key → d.off ≤ m.off) :
    ∀ k, latest s' k = latest s k := by
  intro k
  apply latest_removeAll_core s s' hwf del hlive k
  intro m hl hm
  obtain ⟨_, hv, hmin⟩ := hdel m hm
  have hmk : m ∈ withKey s.live k := List.mem_of_getLast? hl
  refine ⟨hv, ?_⟩
  intro x hx
  obtain ⟨hx1, hx2⟩ := mem_withKey.mp hx
  exact hmin x hx1 (by rw [hx2]; exact (mem_withKey.mp hmk).2.symm)

theorem scanned_prefix (s : Spec) (t : Int) : scanned s t <+: s.live := List.takeWhile_prefix _

theorem scanned_pairwise {s : Spec} (hwf : WF s) (t : Int) :
    (scanned s t).Pairwise (fun a b => a.off < b.off) :=
  hwf.1.sublist (scanned_prefix s t).sublist

theorem mem_scanned {s : Spec} {t : Int} {m : Msg} (h : m ∈ scanned s t) :
    m ∈ s.live ∧ m.time ≤ t := by
  obtain ⟨h1, h2⟩ := Klev.mem_takeWhile _ _ _ h
  exact ⟨h1, of_decide_eq_true h2⟩

theorem live_scanned_or_later {s : Spec} (hwf : WF s) (t : Int) {m : Msg} (hm : m ∈ s.live) :
    m ∈ scanned s t ∨ ∀ x ∈ scanned s t, x.off < m.off := by
  obtain ⟨rest, hr⟩ := scanned_prefix s t
  have hp := hwf.1
  rw [← hr] at hp hm
  rcases List.mem_append.mp hm with hm | hm
  · exact Or.inl hm
  · exact Or.inr (fun x hx => (List.pairwise_append.mp hp).2.2 x hx m hm)

/-- CompactUpdates: removing ANY subset of the FindUpdates selection. -/
theorem compactUpdates_latest (s s' : Spec) (hwf : WF s) (t : Int) (del : List Msg)
    (hsel : ∀ d ∈ del, d ∈ s.live ∧ d.off ∈ offsOf (hasLaterSameKey (scanned s t)))
    (hlive : s'.live = removeAll s.live del) :
    CompactLatestOK s s' ∧ (∀ k, latest s' k = latest s k) ∧ CompactUpdatesRemovedOK s t del := by
  have hpw := scanned_pairwise hwf t
  have hrem : CompactUpdatesRemovedOK s t del := by
    intro d hd
    obtain ⟨hdl, hdo⟩ := hsel d hd
    have hdH : d ∈ hasLaterSameKey (scanned s t) :=
      (off_mem_offsOf_iff hwf.1
        (fun x hx => (mem_scanned (mem_hasLaterSameKey hpw hx).1).1) hdl).mp hdo
    obtain ⟨hds, m, hm, hk, hlt⟩ := mem_hasLaterSameKey hpw hdH
    exact ⟨(mem_scanned hds).2, m, (mem_scanned hm).1, hk, hlt⟩
  have hlat : ∀ k, latest s' k = latest s k :=
    latest_removeAll_of_later s s' hwf del hlive (fun d hd => (hrem d hd).2)
  exact ⟨fun k _ => hlat k, hlat, hrem⟩

/-- CompactDeletes: removing ANY subset of the FindDeletes selection. -/
theorem compactDeletes_latest (s s' : Spec) (hwf : WF s) (t : Int) (del : List Msg)
    (hsel : ∀ d ∈ del, d ∈ s.live ∧ d.off ∈ offsOf (firstOfKeyNoValue (scanned s t) []))
    (hlive : s'.live = removeAll s.live del) :
    CompactLatestOK s s' ∧ (∀ k, latest s' k = latest s k) ∧ CompactDeletesRemovedOK s t del := by
  have hpw := scanned_pairwise hwf t
  have hrem : CompactDeletesRemovedOK s t del := by
    intro d hd
    obtain ⟨hdl, hdo⟩ := hsel d hd
    have hdH : d ∈ firstOfKeyNoValue (scanned s t) [] :=
      (off_mem_offsOf_iff hwf.1
        (fun x hx => (mem_scanned (mem_firstOfKeyNoValue hpw hx).1).1) hdl).mp hdo
    obtain ⟨hds, hv, hmin⟩ := mem_firstOfKeyNoValue hpw hdH
    refine ⟨(mem_scanned hds).2, hv, ?_⟩
    intro m hm hk
    rcases live_scanned_or_later hwf t hm with hms | hlater
    · exact hmin m hms hk
    · exact Int.le_of_lt (hlater d hds)
  have hlat : ∀ k, latest s' k = latest s k :=
    latest_removeAll_of_first_novalue s s' hwf del hlive
      (fun d hd => ⟨(hsel d hd).1, (hrem d hd).2⟩)
  exact ⟨fun k _ => hlat k, hlat, hrem⟩

/-- After the whole FindUpdates selection is gone, on a log with non-decreasing times there is at
most one message per key among those not newer than `t`. -/
theorem compactUpdatesMulti_one_per_key (s s' : Spec) (hwf : WF s) (hmono : Monotone s) (t : Int)
    (del : List Msg) (hlive : s'.live = removeAll s.live del)
    (hfull : ∀ m ∈ s'.live, m.off ∉ offsOf (hasLaterSameKey (scanned s t))) :
    AtMostOnePerKey s' t := by
  have hsc := scanned_eq_filter hmono t
  have hsub : s'.live.Sublist s.live := hlive ▸ List.filter_sublist
  have hscan : ∀ x ∈ s'.live.filter (fun m => decide (m.time ≤ t)), x ∈ scanned s t := fun x hx =>
    hsc ▸ List.mem_filter.mpr ⟨hsub.subset (List.mem_filter.mp hx).1, (List.mem_filter.mp hx).2⟩
  unfold AtMostOnePerKey
  rw [List.Nodup, List.pairwise_map]
  refine ((hwf.1.sublist hsub).filter _).imp_of_mem ?_
  -- of two such messages with one key the earlier one is selected, hence not in `s'`
  intro a b ha hb hab hk
  exact hfull a (List.mem_filter.mp ha).1 (List.mem_map_of_mem
    ((mem_hasLaterSameKey_iff (scanned_pairwise hwf t)).mpr ⟨hscan a ha, b, hscan b hb, hk.symm, hab⟩))

end Spec

open Helpers

theorem delStep_fold (ms : List Msg) (seen : List (List UInt8)) (acc : List Int) :
    (ms.foldl delStep (seen, acc)).2 = acc ++ Spec.offsOf (Spec.firstOfKeyNoValue ms seen) := by
  induction ms generalizing seen acc with
  | nil => simp [Spec.firstOfKeyNoValue, Spec.offsOf]
  | cons m ms ih =>
    rw [List.foldl_cons, Spec.firstOfKeyNoValue_cons, delStep]
    dsimp only
    by_cases hc : seen.contains m.key = true
    · rw [if_pos hc, if_pos hc]
      exact ih seen acc
    · rw [if_neg hc, if_neg hc]
      by_cases hv : m.val = []
      · rw [if_pos hv, if_pos hv, ih (m.key :: seen) (acc ++ [m.off])]
        simp [Spec.offsOf]
      · rw [if_neg hv, if_neg hv]
        exact ih (m.key :: seen) acc

abbrev KV := List (List UInt8 × Int)

def KeysDistinct (kv : KV) : Prop := kv.Pairwise (fun a b => a.1 ≠ b.1)

theorem lookup_eq_some_iff_mem {kv : KV} (hd : KeysDistinct kv) {k : List UInt8} {v : Int} :
    kv.lookup k = some v ↔ (k, v) ∈ kv := by
  induction kv with
  | nil => simp
  | cons e kv ih =>
    obtain ⟨k', b⟩ := e
    rw [KeysDistinct, List.pairwise_cons] at hd
    rw [List.lookup_cons, List.mem_cons, Prod.mk.injEq]
    cases hkk : k == k' with
    | true =>
      obtain rfl : k = k' := eq_of_beq hkk
      simp only [Option.some.injEq, true_and]
      exact ⟨fun h => Or.inl h.symm, fun h => h.elim Eq.symm (fun hm => absurd rfl (hd.1 (k, v) hm))⟩
    | false =>
      simp only [beq_eq_false_iff_ne.mp hkk, false_and, false_or]
      exact ih hd.2

theorem mem_offsOf_hasLater_cons (m : Msg) (ms : List Msg) (x : Int) :
    x ∈ Spec.offsOf (Spec.hasLaterSameKey (m :: ms)) ↔
      ((∃ m' ∈ ms, m'.key = m.key) ∧ x = m.off) ∨ x ∈ Spec.offsOf (Spec.hasLaterSameKey ms) := by
  simp only [Spec.offsOf, List.mem_map, Spec.mem_hasLaterSameKey_cons, or_and_right, exists_or,
    and_assoc, exists_eq_left, eq_comm (a := x)]

theorem updStep_eq (kv : KV) (acc : List Int) (m : Msg) :
    updStep (kv, acc) m =
      ((m.key, m.off) :: kv.filter (fun e => e.1 != m.key), acc ++ (kv.lookup m.key).toList) := by
  unfold updStep
  cases hlk : kv.lookup m.key with
  | some prev => rfl
  | none =>
    have : kv.filter (fun e => e.1 != m.key) = kv := List.filter_eq_self.mpr (fun e he => by
      exact bne_iff_ne.mpr (bne_iff_ne.mp (List.lookup_eq_none_iff.mp hlk e he)).symm)
    simp only [this, Option.toList_none, List.append_nil]

theorem updStep_fold_mem (ms : List Msg) (kv : KV) (acc : List Int) (hd : KeysDistinct kv) (x : Int) :
    x ∈ (ms.foldl updStep (kv, acc)).2 ↔
      x ∈ acc ∨ (∃ m' ∈ ms, (m'.key, x) ∈ kv) ∨ x ∈ Spec.offsOf (Spec.hasLaterSameKey ms) := by
  induction ms generalizing kv acc with
  | nil => simp [Spec.hasLaterSameKey, Spec.offsOf]
  | cons m ms ih =>
    have hd' : KeysDistinct ((m.key, m.off) :: kv.filter (fun e => e.1 != m.key)) :=
      List.pairwise_cons.mpr ⟨fun b hb heq =>
        bne_iff_ne.mp (List.mem_filter.mp hb).2 heq.symm, List.Pairwise.filter _ hd⟩
    have hkv' : ∀ k, (k, x) ∈ (m.key, m.off) :: kv.filter (fun e => e.1 != m.key) ↔
        (k = m.key ∧ x = m.off) ∨ ((k, x) ∈ kv ∧ k ≠ m.key) := by
      intro k
      simp [List.mem_filter]
    have hacc' : x ∈ acc ++ (kv.lookup m.key).toList ↔ x ∈ acc ∨ (m.key, x) ∈ kv := by
      rw [List.mem_append, Option.mem_toList, ← lookup_eq_some_iff_mem hd]
    rw [List.foldl_cons, updStep_eq, ih _ _ hd', mem_offsOf_hasLater_cons, hacc']
    simp only [hkv']
    constructor
    · rintro ((h | h) | ⟨m', hm', (⟨hk, hx⟩ | ⟨h, _⟩)⟩ | h)
      · exact Or.inl h
      · exact Or.inr (Or.inl ⟨m, List.mem_cons_self, h⟩)
      · exact Or.inr (Or.inr (Or.inl ⟨⟨m', hm', hk⟩, hx⟩))
      · exact Or.inr (Or.inl ⟨m', List.mem_cons_of_mem _ hm', h⟩)
      · exact Or.inr (Or.inr (Or.inr h))
    · rintro (h | ⟨m', hm', h⟩ | ⟨⟨m', hm', hk⟩, hx⟩ | h)
      · exact Or.inl (Or.inl h)
      · -- an entry of `kv` under the key of `m` is emitted at this step, any other is kept
        by_cases hk : m'.key = m.key
        · exact Or.inl (Or.inr (hk ▸ h))
        · rcases List.mem_cons.mp hm' with rfl | hm'
          · exact absurd rfl hk
          · exact Or.inr (Or.inl ⟨m', hm', Or.inr ⟨h, hk⟩⟩)
      · exact Or.inr (Or.inl ⟨m', hm', Or.inl ⟨hk, hx⟩⟩)
      · exact Or.inr (Or.inr h)

theorem updStep_fold_sameSet (ms : List Msg) :
    Spec.SameSet (ms.foldl updStep ([], [])).2 (Spec.offsOf (Spec.hasLaterSameKey ms)) := by
  have h : ∀ x, x ∈ (ms.foldl updStep ([], [])).2 ↔ x ∈ Spec.offsOf (Spec.hasLaterSameKey ms) :=
    fun x => by rw [updStep_fold_mem ms [] [] List.Pairwise.nil x]; simp
  exact ⟨fun x hx => (h x).mp hx, fun x hx => (h x).mpr hx⟩

end Klev

#print axioms Klev.Spec.mem_hasLaterSameKey
#print axioms Klev.Spec.mem_firstOfKeyNoValue
#print axioms Klev.Spec.latest_removeAll_of_later
#print axioms Klev.Spec.latest_removeAll_of_first_novalue
#print axioms Klev.Spec.compactUpdates_latest
#print axioms Klev.Spec.compactDeletes_latest
#print axioms Klev.Spec.compactUpdatesMulti_one_per_key
