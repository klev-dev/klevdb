/-
`Klev.Notify.stepTh` as a relation with one constructor per (kind, pc, branch): after `cases` the
thread record, and in particular its `pc`, is a literal. The notions the invariant is stated in
(token window, `ThInv`) are defined on the pc.
-/
import Klev.Notify

namespace Klev.Notify

/-- `Step s t s' t'`: thread `t` executes one instruction in shared state `s`. -/
inductive Step : St → Th → St → Th → Prop
  -- `Wait`
  | w0_fast {s : St} {off : Int} {b : Option Nat} {ok upd cd : Bool} (h : off < s.next) :
      Step s ⟨.wait off, 0, b, ok, upd, cd, none⟩ s ⟨.wait off, 0, b, ok, upd, cd, some .nil⟩
  | w0_slow {s : St} {off : Int} {b : Option Nat} {ok upd cd : Bool} (h : ¬ off < s.next) :
      Step s ⟨.wait off, 0, b, ok, upd, cd, none⟩ s ⟨.wait off, 1, b, ok, upd, cd, none⟩
  | w1_closed {s : St} {off : Int} {b : Option Nat} {ok upd cd : Bool} (h : s.barrier = .closed) :
      Step s ⟨.wait off, 1, b, ok, upd, cd, none⟩ s ⟨.wait off, 2, none, false, upd, cd, none⟩
  | w1_full {s : St} {off : Int} {b : Option Nat} {ok upd cd : Bool} {c : Nat}
      (h : s.barrier = .full c) :
      Step s ⟨.wait off, 1, b, ok, upd, cd, none⟩
        { s with barrier := .empty } ⟨.wait off, 2, some c, true, upd, cd, none⟩
  | w2_ok {s : St} {off : Int} {b : Option Nat} {upd cd : Bool} :
      Step s ⟨.wait off, 2, b, true, upd, cd, none⟩ s ⟨.wait off, 3, b, true, upd, cd, none⟩
  | w2_ret {s : St} {off : Int} {b : Option Nat} {upd cd : Bool} :
      Step s ⟨.wait off, 2, b, false, upd, cd, none⟩ s
        ⟨.wait off, 2, b, false, upd, cd, some .errClosed⟩
  | w3 {s : St} {off : Int} {b : Option Nat} {ok upd cd : Bool} :
      Step s ⟨.wait off, 3, b, ok, upd, cd, none⟩ s
        ⟨.wait off, 4, b, ok, decide (off < s.next), cd, none⟩
  | w4_send {s : St} {off : Int} {c : Nat} {ok upd cd : Bool} (h : s.barrier = .empty) :
      Step s ⟨.wait off, 4, some c, ok, upd, cd, none⟩
        { s with barrier := .full c } ⟨.wait off, 5, some c, ok, upd, cd, none⟩
  | w4_panicClosed {s : St} {off : Int} {b : Option Nat} {ok upd cd : Bool}
      (h : s.barrier = .closed) :
      Step s ⟨.wait off, 4, b, ok, upd, cd, none⟩
        { s with panicked := true } ⟨.wait off, 5, b, ok, upd, cd, none⟩
  | w4_panicNone {s : St} {off : Int} {ok upd cd : Bool} (h : s.barrier = .empty) :
      Step s ⟨.wait off, 4, none, ok, upd, cd, none⟩
        { s with panicked := true } ⟨.wait off, 5, none, ok, upd, cd, none⟩
  | w5_ret {s : St} {off : Int} {b : Option Nat} {ok cd : Bool} :
      Step s ⟨.wait off, 5, b, ok, true, cd, none⟩ s ⟨.wait off, 5, b, ok, true, cd, some .nil⟩
  | w5_adv {s : St} {off : Int} {b : Option Nat} {ok cd : Bool} :
      Step s ⟨.wait off, 5, b, ok, false, cd, none⟩ s ⟨.wait off, 6, b, ok, false, cd, none⟩
  | w6_woken {s : St} {off : Int} {c : Nat} {ok upd cd : Bool} (h : c ∈ s.closedCh) :
      Step s ⟨.wait off, 6, some c, ok, upd, cd, none⟩ s
        ⟨.wait off, 6, some c, ok, upd, cd, some .nil⟩
  | w6_cancel {s : St} {off : Int} {c : Nat} {ok upd : Bool} (h : c ∉ s.closedCh) :
      Step s ⟨.wait off, 6, some c, ok, upd, true, none⟩ s
        ⟨.wait off, 6, some c, ok, upd, true, some .ctxErr⟩
  -- `Set`
  | s0_closed {s : St} {n : Int} {b : Option Nat} {ok upd cd : Bool} (h : s.barrier = .closed) :
      Step s ⟨.set n, 0, b, ok, upd, cd, none⟩ s ⟨.set n, 1, none, false, upd, cd, none⟩
  | s0_full {s : St} {n : Int} {b : Option Nat} {ok upd cd : Bool} {c : Nat}
      (h : s.barrier = .full c) :
      Step s ⟨.set n, 0, b, ok, upd, cd, none⟩
        { s with barrier := .empty } ⟨.set n, 1, some c, true, upd, cd, none⟩
  | s1_ok {s : St} {n : Int} {b : Option Nat} {upd cd : Bool} :
      Step s ⟨.set n, 1, b, true, upd, cd, none⟩ s ⟨.set n, 2, b, true, upd, cd, none⟩
  | s1_ret {s : St} {n : Int} {b : Option Nat} {upd cd : Bool} :
      Step s ⟨.set n, 1, b, false, upd, cd, none⟩ s ⟨.set n, 1, b, false, upd, cd, some .none_⟩
  | s2_store {s : St} {n : Int} {b : Option Nat} {ok upd cd : Bool} (h : s.next < n) :
      Step s ⟨.set n, 2, b, ok, upd, cd, none⟩ { s with next := n }
        ⟨.set n, 3, b, ok, upd, cd, none⟩
  | s2_keep {s : St} {n : Int} {b : Option Nat} {ok upd cd : Bool} (h : ¬ s.next < n) :
      Step s ⟨.set n, 2, b, ok, upd, cd, none⟩ s ⟨.set n, 3, b, ok, upd, cd, none⟩
  | s3_close {s : St} {n : Int} {c : Nat} {ok upd cd : Bool} (h : c ∉ s.closedCh) :
      Step s ⟨.set n, 3, some c, ok, upd, cd, none⟩
        { s with closedCh := c :: s.closedCh } ⟨.set n, 4, some c, ok, upd, cd, none⟩
  | s3_panicDouble {s : St} {n : Int} {c : Nat} {ok upd cd : Bool} (h : c ∈ s.closedCh) :
      Step s ⟨.set n, 3, some c, ok, upd, cd, none⟩
        { s with panicked := true } ⟨.set n, 4, some c, ok, upd, cd, none⟩
  | s3_panicNone {s : St} {n : Int} {ok upd cd : Bool} :
      Step s ⟨.set n, 3, none, ok, upd, cd, none⟩
        { s with panicked := true } ⟨.set n, 4, none, ok, upd, cd, none⟩
  | s4_send {s : St} {n : Int} {b : Option Nat} {ok upd cd : Bool} (h : s.barrier = .empty) :
      Step s ⟨.set n, 4, b, ok, upd, cd, none⟩
        { s with barrier := .full s.fresh, fresh := s.fresh + 1 }
        ⟨.set n, 5, b, ok, upd, cd, none⟩
  | s4_panic {s : St} {n : Int} {b : Option Nat} {ok upd cd : Bool} (h : s.barrier = .closed) :
      Step s ⟨.set n, 4, b, ok, upd, cd, none⟩
        { s with panicked := true } ⟨.set n, 5, b, ok, upd, cd, none⟩
  | s5 {s : St} {n : Int} {b : Option Nat} {ok upd cd : Bool} :
      Step s ⟨.set n, 5, b, ok, upd, cd, none⟩ s ⟨.set n, 5, b, ok, upd, cd, some .none_⟩
  -- `Close`
  | c0_closed {s : St} {b : Option Nat} {ok upd cd : Bool} (h : s.barrier = .closed) :
      Step s ⟨.close, 0, b, ok, upd, cd, none⟩ s ⟨.close, 1, none, false, upd, cd, none⟩
  | c0_full {s : St} {b : Option Nat} {ok upd cd : Bool} {c : Nat} (h : s.barrier = .full c) :
      Step s ⟨.close, 0, b, ok, upd, cd, none⟩
        { s with barrier := .empty } ⟨.close, 1, some c, true, upd, cd, none⟩
  | c1_ok {s : St} {b : Option Nat} {upd cd : Bool} :
      Step s ⟨.close, 1, b, true, upd, cd, none⟩ s ⟨.close, 2, b, true, upd, cd, none⟩
  | c1_ret {s : St} {b : Option Nat} {upd cd : Bool} :
      Step s ⟨.close, 1, b, false, upd, cd, none⟩ s
        ⟨.close, 1, b, false, upd, cd, some .errClosed⟩
  | c2_close {s : St} {c : Nat} {ok upd cd : Bool} (h : c ∉ s.closedCh) :
      Step s ⟨.close, 2, some c, ok, upd, cd, none⟩
        { s with closedCh := c :: s.closedCh } ⟨.close, 3, some c, ok, upd, cd, none⟩
  | c2_panicDouble {s : St} {c : Nat} {ok upd cd : Bool} (h : c ∈ s.closedCh) :
      Step s ⟨.close, 2, some c, ok, upd, cd, none⟩
        { s with panicked := true } ⟨.close, 3, some c, ok, upd, cd, none⟩
  | c2_panicNone {s : St} {ok upd cd : Bool} :
      Step s ⟨.close, 2, none, ok, upd, cd, none⟩
        { s with panicked := true } ⟨.close, 3, none, ok, upd, cd, none⟩
  | c3_close {s : St} {b : Option Nat} {ok upd cd : Bool} (h : s.barrier ≠ .closed) :
      Step s ⟨.close, 3, b, ok, upd, cd, none⟩
        { s with barrier := .closed } ⟨.close, 4, b, ok, upd, cd, none⟩
  | c3_panic {s : St} {b : Option Nat} {ok upd cd : Bool} (h : s.barrier = .closed) :
      Step s ⟨.close, 3, b, ok, upd, cd, none⟩
        { s with panicked := true } ⟨.close, 4, b, ok, upd, cd, none⟩
  | c4 {s : St} {b : Option Nat} {ok upd cd : Bool} :
      Step s ⟨.close, 4, b, ok, upd, cd, none⟩ s ⟨.close, 4, b, ok, upd, cd, some .nil⟩

/-- The thread holds the token: it is between its successful `recvBarrier` and its
`sendBarrierB` / `sendBarrierNew` / `closeBarrier`. -/
def inWindow (t : Th) : Bool :=
  !t.done && t.ok &&
    (match t.kind with
     | .wait _ => decide (2 ≤ t.pc ∧ t.pc ≤ 4)
     | .set _ => decide (1 ≤ t.pc ∧ t.pc ≤ 4)
     | .close => decide (1 ≤ t.pc ∧ t.pc ≤ 3))

theorem inWindow_ok {t : Th} (hw : inWindow t = true) : t.ok = true := by
  cases hok : t.ok
  · simp [inWindow, hok] at hw
  · rfl

theorem inWindow_not_done {t : Th} (hw : inWindow t = true) : t.done = false := by
  cases hd : t.done
  · rfl
  · simp [inWindow, hd] at hw

/-- A `Set`/`Close` thread that has executed its `closeB`. -/
def pastCloseB (t : Th) : Bool :=
  match t.kind with
  | .wait _ => false
  | .set _ => decide (4 ≤ t.pc)
  | .close => decide (3 ≤ t.pc)

/-- pc of the `recvBarrier` instruction. -/
def recvPc : Kind → Nat
  | .wait _ => 1
  | _ => 0

/-- What holds of a thread's locals at each pc; `recvPc + 2` is the first pc past `ifNotOkRet`. -/
def ThInv (s : St) (t : Th) : Prop :=
  t.pc < (progOf t.kind).length ∧
  (t.pc ≤ recvPc t.kind → t.ok = false) ∧
  (recvPc t.kind + 2 ≤ t.pc → t.ok = true) ∧
  (t.ok = t.b.isSome) ∧
  (∀ ch, t.b = some ch → ch < s.fresh) ∧
  (∀ off, t.kind = .wait off → t.pc = 6 → t.upd = false)

/-- A legitimately parked waiter: at `selectWait`, its channel still open, not cancelled. -/
def Parked (s : St) (t : Th) : Prop :=
  ∃ off ch, t.kind = .wait off ∧ t.pc = 6 ∧ t.b = some ch ∧ ch ∉ s.closedCh ∧ t.ctxDone = false

/-- A waiter that has executed its probe (pc ∈ {4,5,6}), is not done, and probed `false`. -/
def PastProbe (t : Th) (off : Int) : Prop :=
  t.kind = .wait off ∧ 4 ≤ t.pc ∧ t.done = false ∧ t.upd = false

/-- A `Set` thread holding channel `ch` that has not yet executed its `closeB`. -/
def SetterMid (u : Th) (ch : Nat) : Prop :=
  (∃ n, u.kind = .set n) ∧ u.b = some ch ∧ 1 ≤ u.pc ∧ u.pc ≤ 3 ∧ u.done = false

theorem ThInv.mono {s s' : St} {t : Th} (h : ThInv s t) (hf : s.fresh ≤ s'.fresh) : ThInv s' t := by
  obtain ⟨h1, h2, h3, h4, h5, h6⟩ := h
  exact ⟨h1, h2, h3, h4, fun ch hb => Nat.lt_of_lt_of_le (h5 ch hb) hf, h6⟩

theorem ThInv.blt {s : St} {t : Th} (h : ThInv s t) {ch : Nat} (hb : t.b = some ch) :
    ch < s.fresh := by
  obtain ⟨_, _, _, _, hlt, _⟩ := h
  exact hlt ch hb

theorem ThInv.pcLt {s : St} {t : Th} (h : ThInv s t) : t.pc < (progOf t.kind).length := h.1

theorem ThInv.ok_eq {s : St} {t : Th} (h : ThInv s t) : t.ok = t.b.isSome := h.2.2.2.1

theorem ThInv.ok_of_post {s : St} {t : Th} (h : ThInv s t) (hp : recvPc t.kind + 2 ≤ t.pc) :
    t.ok = true := h.2.2.1 hp

theorem ThInv.b_of_ok {s : St} {t : Th} (h : ThInv s t) (hok : t.ok = true) :
    ∃ ch, t.b = some ch :=
  Option.isSome_iff_exists.mp (h.ok_eq.symm.trans hok)

theorem ThInv.cancel {s : St} {t : Th} (h : ThInv s t) : ThInv s { t with ctxDone := true } := h

theorem recvPc_lt (k : Kind) : recvPc k + 1 < (progOf k).length := by
  cases k <;> exact of_decide_eq_true rfl

theorem ThInv.fresh (s : St) (k : Kind) : ThInv s { kind := k } :=
  ⟨Nat.lt_of_le_of_lt (Nat.zero_le _) (recvPc_lt k), fun _ => rfl, nofun, rfl, nofun, nofun⟩

theorem ThInv.recv {s : St} {k : Kind} {b : Option Nat} {upd cd : Bool} {res : Option Ret}
    (hb : ∀ ch, b = some ch → ch < s.fresh) :
    ThInv s ⟨k, recvPc k + 1, b, b.isSome, upd, cd, res⟩ :=
  ⟨recvPc_lt k, fun h => absurd h (Nat.not_succ_le_self _),
    fun h => absurd h (Nat.not_succ_le_self _), rfl, hb,
    fun off hk h6 => absurd h6 (by cases hk; exact of_decide_eq_true rfl)⟩

/-- `ok` must hold where `ifNotOkRet` is passed, `updated` be false where `ifUpdRetNil` falls
through. -/
theorem ThInv.adv {s : St} {t : Th} {u : Bool} (hi : ThInv s t)
    (hlen : t.pc + 1 < (progOf t.kind).length) (hok : t.pc = recvPc t.kind + 1 → t.ok = true)
    (hupd : t.pc = 5 → u = false) : ThInv s { t with pc := t.pc + 1, upd := u } := by
  obtain ⟨_, h2, h3, h4, h5, _⟩ := hi
  refine ⟨hlen, fun h => h2 (Nat.le_of_succ_le h), fun h => ?_, h4, h5,
    fun _ _ h6 => hupd (Nat.succ.inj h6)⟩
  rcases Nat.lt_or_ge t.pc (recvPc t.kind + 2) with hlt | hge
  · exact hok (Nat.le_antisymm (Nat.le_of_lt_succ hlt) (Nat.le_of_succ_le_succ h))
  · exact h3 hge

/-- `stepTh` position by position: a transition of `Step`, or the thread waits for the token, or
holds it and finds the barrier full, or is parked. -/
theorem stepTh_cases (s : St) (t : Th) :
    match stepTh s t with
    | some (s', t') => Step s t s' t'
    | none => t.done = false → ThInv s t →
      (inWindow t = false ∧ s.barrier = .empty) ∨ (inWindow t = true ∧ ∃ c, s.barrier = .full c) ∨
        Parked s t := by
  generalize hr : stepTh s t = r
  obtain ⟨kind, pc, b, ok, upd, cd, res⟩ := t
  cases res with
  | some x =>
    cases hr
    exact nofun
  | none =>
    cases kind
    case' wait => rcases pc with _|_|_|_|_|_|_|pc
    case' set => rcases pc with _|_|_|_|_|_|pc
    case' close => rcases pc with _|_|_|_|_|pc
    all_goals
      simp only [stepTh, Th.done, Option.isSome_none, Bool.false_eq_true, ↓reduceIte, progOf,
        waitProg, setProg, closeProg, List.getElem?_cons_succ, List.getElem?_cons_zero,
        List.getElem?_nil, List.contains_iff_mem] at hr
    all_goals repeat' split at hr
    all_goals subst hr
    -- where `stepTh` is `none`; `simp_all` is slow unless the context holds only what it needs
    any_goals
      intro _ hi
      have h1 := hi.pcLt
      have h3 := hi.ok_of_post
      have h4 := hi.ok_eq
      clear hi
      simp_all [inWindow, Th.done, Parked, recvPc, progOf, waitProg, setProg, closeProg] <;> omega
    any_goals simp only [Bool.not_eq_true] at *
    all_goals subst_vars
    -- here `constructor` would commit to `w4_panicClosed`, which fits the threads as well
    any_goals exact .w4_panicNone ‹_›
    all_goals constructor <;> assumption

theorem stepTh_spec {s s' : St} {t t' : Th} (h : stepTh s t = some (s', t')) : Step s t s' t' := by
  have := stepTh_cases s t
  rwa [h] at this

theorem stepTh_none {s : St} {t : Th} (h : stepTh s t = none) (hd : t.done = false)
    (hi : ThInv s t) :
    (inWindow t = false ∧ s.barrier = .empty) ∨ (inWindow t = true ∧ ∃ c, s.barrier = .full c) ∨
      Parked s t := by
  have := stepTh_cases s t
  rw [h] at this
  exact this hd hi

theorem Step.stepTh_eq {s s' : St} {t t' : Th} (h : Step s t s' t') : stepTh s t = some (s', t') := by
  cases h
  -- the transitions without a condition hold by evaluation
  case w2_ok | w2_ret | w3 | w5_ret | w5_adv | s1_ok | s1_ret | s3_panicNone | s5 | c1_ok | c1_ret |
      c2_panicNone | c4 => rfl
  all_goals
    simp only [stepTh, Th.done, Option.isSome_none, Bool.false_eq_true, ↓reduceIte, progOf,
      waitProg, setProg, closeProg, List.getElem?_cons_succ, List.getElem?_cons_zero,
      List.contains_iff_mem, *]

theorem stepTh_iff_step {s s' : St} {t t' : Th} : stepTh s t = some (s', t') ↔ Step s t s' t' :=
  ⟨stepTh_spec, Step.stepTh_eq⟩

theorem inWindow_enabled {s : St} {t : Th} (hi : ThInv s t) (hw : inWindow t = true)
    (hbar : s.barrier = .empty) : (stepTh s t).isSome = true := by
  cases h : stepTh s t with
  | some _ => rfl
  | none =>
    rcases stepTh_none h (inWindow_not_done hw) hi with ⟨hn, _⟩ | ⟨_, c, hc⟩ | hp
    · cases hw.symm.trans hn
    · cases hbar.symm.trans hc
    · obtain ⟨off, ch, hk, hpc, _⟩ := hp
      simp [inWindow, hk, hpc] at hw

theorem Step.kind_eq {s s' : St} {t t' : Th} (h : Step s t s' t') : t'.kind = t.kind := by
  cases h <;> rfl

theorem Step.not_done {s s' : St} {t t' : Th} (h : Step s t s' t') : t.done = false := by
  cases hd : t.done
  · rfl
  · have := h.stepTh_eq
    rw [stepTh, if_pos hd] at this
    cases this

theorem Step.mono {s s' : St} {t t' : Th} (h : Step s t s' t') :
    s.next ≤ s'.next ∧ s.fresh ≤ s'.fresh ∧ (∀ ch, ch ∈ s.closedCh → ch ∈ s'.closedCh) := by
  cases h
  case s2_store h => exact ⟨Int.le_of_lt h, Nat.le_refl _, fun _ h => h⟩
  case s3_close | c2_close =>
    exact ⟨Int.le_refl _, Nat.le_refl _, fun _ h => List.mem_cons_of_mem _ h⟩
  case s4_send => exact ⟨Int.le_refl _, Nat.le_succ _, fun _ h => h⟩
  all_goals exact ⟨Int.le_refl _, Nat.le_refl _, fun _ h => h⟩

theorem Step.thInv {s s' : St} {t t' : Th} (h : Step s t s' t') (hi : ThInv s t)
    (hfull : ∀ ch, s.barrier = .full ch → ch < s.fresh) : ThInv s' t' := by
  replace hi : ThInv s' t := hi.mono h.mono.2.1
  cases h
  -- a return changes only `res`, which `ThInv` does not mention
  case w0_fast | w2_ret | w5_ret | w6_woken | w6_cancel | s1_ret | s5 | c1_ret | c4 => exact hi
  case w1_closed | s0_closed | c0_closed => exact .recv nofun
  case w1_full h | s0_full h | c0_full h =>
    exact .recv fun _ hc => Option.some.inj hc ▸ hfull _ h
  -- the side conditions are about literal positions (`decide` itself refuses the free `off`)
  all_goals exact hi.adv (of_decide_eq_true rfl) (of_decide_eq_true rfl) (of_decide_eq_true rfl)

/-- The effect of one thread step on the token discipline, abstracted from kind/pc. -/
inductive Eff (s : St) (t : Th) (s' : St) (t' : Th) : Prop
  | loc (hbar : s'.barrier = s.barrier) (hcl : s'.closedCh = s.closedCh)
      (hfr : s'.fresh = s.fresh) (hpan : s'.panicked = s.panicked)
      (hw : inWindow t' = inWindow t) (hb : t'.b = t.b) (hp : pastCloseB t' = pastCloseB t)
  | acquire (ch : Nat) (hbar : s.barrier = .full ch) (hs : s' = { s with barrier := .empty })
      (hw : inWindow t = false) (hw' : inWindow t' = true) (hb' : t'.b = some ch)
      (hp' : pastCloseB t' = false)
  | release (ch : Nat) (hbar : s.barrier = .empty) (hs : s' = { s with barrier := .full ch })
      (hw : inWindow t = true) (hw' : inWindow t' = false) (hb : t.b = some ch)
      (hb' : t'.b = some ch) (hp : pastCloseB t = false)
  | closeB (ch : Nat) (hnc : ch ∉ s.closedCh)
      (hs : s' = { s with closedCh := ch :: s.closedCh })
      (hw : inWindow t = true) (hw' : inWindow t' = true) (hb : t.b = some ch)
      (hb' : t'.b = some ch) (hp' : pastCloseB t' = true)
  | releaseNew (ch : Nat) (hbar : s.barrier = .empty)
      (hs : s' = { s with barrier := .full s.fresh, fresh := s.fresh + 1 })
      (hw : inWindow t = true) (hw' : inWindow t' = false) (hb : t.b = some ch)
      (hb' : t'.b = some ch) (hp : pastCloseB t = true)
  | closeBar (ch : Nat) (hbar : s.barrier = .empty) (hs : s' = { s with barrier := .closed })
      (hw : inWindow t = true) (hw' : inWindow t' = false) (hb : t.b = some ch)
      (hb' : t'.b = some ch) (hp : pastCloseB t = true)

/-- Under the token discipline (a thread in its window sees an empty barrier and its channel
is closed iff it is past its `closeB`) every step is one of the six effects; in particular
the panicking branches are unreachable. -/
theorem Step.eff {s s' : St} {t t' : Th} (h : Step s t s' t') (hi : ThInv s t)
    (hctx : inWindow t = true → s.barrier = .empty ∧
      ∀ ch, t.b = some ch → (ch ∈ s.closedCh ↔ pastCloseB t = true)) : Eff s t s' t' := by
  have hpost := hi.ok_of_post
  have hok := hi.ok_eq
  obtain ⟨-, hpre, -⟩ := hi
  cases h
  case w1_full h | s0_full h | c0_full h => exact .acquire _ h rfl (Bool.and_false _) rfl rfl rfl
  -- a receive from the closed barrier: `b` was `none` already
  case w1_closed | s0_closed | c0_closed =>
    cases hpre (Nat.le_refl _)
    cases ‹Option Nat›
    · exact .loc rfl rfl rfl rfl rfl rfl rfl
    · cases hok
  case w0_fast | w5_ret | w6_woken | w6_cancel | s5 | c4 =>
    exact .loc rfl rfl rfl rfl (Bool.and_false _).symm rfl rfl
  case w0_slow | w2_ok | w2_ret | w3 | w5_adv | s1_ok | s1_ret | s2_store | s2_keep | c1_ok | c1_ret =>
    exact .loc rfl rfl rfl rfl rfl rfl rfl
  -- past the check and inside the window `ok = true`, so `b` is a channel, and the barrier is empty
  all_goals
    cases hpost (of_decide_eq_true rfl)
    obtain ⟨hemp, hcl⟩ := hctx rfl
    obtain ⟨c, hc⟩ := Option.isSome_iff_exists.mp hok.symm
    cases hc
  case w4_send h => exact .release _ h rfl rfl (Bool.and_false _) rfl rfl rfl
  case s3_close h | c2_close h => exact .closeB _ h rfl rfl rfl rfl rfl rfl
  case s4_send h => exact .releaseNew _ h rfl rfl (Bool.and_false _) rfl rfl rfl
  case c3_close => exact .closeBar _ hemp rfl rfl (Bool.and_false _) rfl rfl rfl
  case s3_panicDouble h | c2_panicDouble h => exact absurd ((hcl _ rfl).mp h) Bool.false_ne_true
  case w4_panicClosed h | s4_panic h | c3_panic h => cases h.symm.trans hemp

theorem Step.next_change {s s' : St} {t t' : Th} (h : Step s t s' t') (hi : ThInv s t)
    (hne : s'.next ≠ s.next) : inWindow t = true ∧ ∀ ch, t.b = some ch → SetterMid t' ch := by
  have hpost := hi.ok_of_post
  cases h
  case s2_store =>
    cases hpost (of_decide_eq_true rfl)
    exact ⟨rfl, fun ch hb => ⟨⟨_, rfl⟩, hb, of_decide_eq_true rfl, of_decide_eq_true rfl, rfl⟩⟩
  all_goals exact absurd rfl hne

theorem Step.setterMid_progress {s s' : St} {t t' : Th} (h : Step s t s' t') (hi : ThInv s t)
    {ch : Nat} (hm : SetterMid t ch) :
    (SetterMid t' ch ∧ t'.pc = t.pc + 1) ∨ ch ∈ s'.closedCh := by
  have hok := hi.ok_eq
  clear hi
  obtain ⟨⟨n, hk⟩, hb, hp1, hp3, hd⟩ := hm
  obtain ⟨kind, pc, b, ok, upd, cd, res⟩ := t
  cases hk
  cases hb
  obtain rfl : ok = true := hok
  -- `cases` now leaves only the steps of a `Set` thread with `b = some ch` and `ok = true`
  cases h
  case s1_ok | s2_store | s2_keep =>
    exact .inl ⟨⟨⟨n, rfl⟩, rfl, of_decide_eq_true rfl, of_decide_eq_true rfl, rfl⟩, rfl⟩
  case s3_close => exact .inr List.mem_cons_self
  case s3_panicDouble h => exact .inr h
  case s0_closed | s0_full => cases hp1
  all_goals exact absurd hp3 (of_decide_eq_true rfl)

theorem Step.pastProbe {s s' : St} {t t' : Th} (h : Step s t s' t') {off : Int} {ch : Nat}
    (hp : PastProbe t' off) (hb : t'.b = some ch) :
    (PastProbe t off ∧ t.b = some ch) ∨ s'.next ≤ off := by
  obtain ⟨hk, hpc, hd, hu⟩ := hp
  obtain ⟨kind, pc, b, ok, upd, cd, res⟩ := t'
  cases hk
  cases hb
  cases res with
  | some r => cases hd
  | none =>
    cases h
    case w3 => exact .inr (Int.not_lt.mp (of_decide_eq_false hu))
    case w4_send | w4_panicClosed | w5_adv =>
      exact .inl ⟨⟨rfl, of_decide_eq_true rfl, rfl, hu⟩, rfl⟩
    all_goals exact absurd hpc (of_decide_eq_true rfl)

theorem Step.closed_change {s s' : St} {t t' : Th} (h : Step s t s' t') {ch : Nat}
    (hin : ch ∈ s'.closedCh) (hnot : ch ∉ s.closedCh) :
    (t.kind = .close ∨ ∃ n, t.kind = .set n) ∧ (progOf t.kind)[t.pc]? = some .closeB ∧
      t.b = some ch := by
  cases h
  case s3_close =>
    exact ⟨.inr ⟨_, rfl⟩, rfl, congrArg some ((List.mem_cons.mp hin).resolve_right hnot).symm⟩
  case c2_close =>
    exact ⟨.inl rfl, rfl, congrArg some ((List.mem_cons.mp hin).resolve_right hnot).symm⟩
  all_goals exact absurd hin hnot

end Klev.Notify
