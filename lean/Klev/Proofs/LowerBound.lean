/-
The notion behind the four search loops of `Klev/Index.lean`: the lower bound of `x` in a list
sorted by an integer key (`List.findIdx`); the upper bound is the lower bound of `x + 1`. What
a three-way bisection knows about its window `[b, e]` is then two inequalities (`Window`).
-/
import Klev.Index
namespace Klev

theorem getI_natCast {α : Type} (l : List α) {i : Nat} (h : i < l.length) :
    getI l (i : Int) = .ok l[i] := by
  simp [getI, h]

theorem mid_bounds {i j : Nat} (h : i < j) : i ≤ (i + j) / 2 ∧ (i + j) / 2 < j := by omega

section LowerBound
variable {α : Type} {key : α → Int} {l : List α}

/-- The index of the first element of `l` whose key is at least `x`; `l.length` if there is none. -/
def lowerBound (key : α → Int) (l : List α) (x : Int) : Nat :=
  l.findIdx (fun a => decide (x ≤ key a))

theorem lowerBound_le_length (x : Int) : lowerBound key l x ≤ l.length :=
  List.findIdx_le_length

theorem find?_le_eq (x : Int) :
    l.find? (fun a => decide (x ≤ key a)) = l[lowerBound key l x]? :=
  List.find?_eq_getElem?_findIdx

theorem lowerBound_map {β : Type} (f : β → α) (l : List β) (x : Int) :
    lowerBound key (l.map f) x = lowerBound (fun b => key (f b)) l x :=
  List.findIdx_map ..

theorem lowerBound_le_of_le {x : Int} {i : Nat} (hi : i < l.length) (h : x ≤ key l[i]) :
    lowerBound key l x ≤ i :=
  Nat.le_of_not_lt fun hlt => by simpa [h] using List.not_of_lt_findIdx hlt

theorem key_le_of_le (hl : l.Pairwise (fun a b => key a ≤ key b)) {i j : Nat} (hij : i ≤ j)
    (hj : j < l.length) : key (l[i]'(Nat.lt_of_le_of_lt hij hj)) ≤ key l[j] := by
  rcases Nat.lt_or_eq_of_le hij with hlt | rfl
  · exact List.pairwise_iff_getElem.mp hl i j (Nat.lt_trans hlt hj) hj hlt
  · exact Int.le_refl _

theorem lt_lowerBound_iff (hl : l.Pairwise (fun a b => key a ≤ key b)) {x : Int} {i : Nat}
    (hi : i < l.length) : i < lowerBound key l x ↔ key l[i] < x := by
  constructor
  · intro h
    simpa using List.not_of_lt_findIdx h
  · intro h
    apply List.lt_findIdx_of_not hi
    intro j hj
    have := key_le_of_le hl hj hi
    simp only [decide_eq_true_eq]
    exact Int.not_le.mpr (Int.lt_of_le_of_lt this h)

theorem filter_le_eq_drop (hl : l.Pairwise (fun a b => key a ≤ key b)) (x : Int) :
    l.filter (fun a => decide (x ≤ key a)) = l.drop (lowerBound key l x) := by
  induction l with
  | nil => rfl
  | cons a as ih =>
    obtain ⟨ha, has⟩ := List.pairwise_cons.mp hl
    rw [lowerBound, List.findIdx_cons]
    by_cases h : x ≤ key a
    · rw [decide_eq_true h, cond_true, List.drop_zero, List.filter_eq_self]
      intro b hb
      rcases List.mem_cons.mp hb with rfl | hb
      · exact decide_eq_true h
      · exact decide_eq_true (Int.le_trans h (ha b hb))
    · rw [decide_eq_false h, cond_false, List.drop_succ_cons,
        List.filter_cons_of_neg (by simpa using h)]
      exact ih has

theorem lowerBound_succ_le (hl : l.Pairwise (fun a b => key a < key b)) (x : Int) :
    lowerBound key l (x + 1) ≤ lowerBound key l x + 1 := by
  have hw := hl.imp (fun h => Int.le_of_lt h)
  apply Nat.le_of_not_lt
  intro h
  have hn1 := Nat.lt_of_lt_of_le h (lowerBound_le_length (key := key) (l := l) (x + 1))
  have hn := Nat.lt_of_succ_lt hn1
  have a := (lt_lowerBound_iff hw hn1).mp h
  have b := mt (lt_lowerBound_iff hw (x := x) hn).mpr (Nat.lt_irrefl _)
  have c := List.pairwise_iff_getElem.mp hl _ _ hn hn1 (Nat.lt_succ_self _)
  omega

theorem lowerBound_mono (x : Int) : lowerBound key l x ≤ lowerBound key l (x + 1) :=
  List.findIdx_le_findIdx (fun a _ h => by
    simp only [decide_eq_true_eq] at h ⊢; exact Int.le_of_lt (Int.lt_of_add_one_le h))

theorem find?_key_eq_some (hl : l.Pairwise (fun a b => key a < key b)) {x : Int} {i : Nat}
    (hi : i < l.length) (h : key l[i] = x) : l.find? (fun a => key a == x) = some l[i] := by
  rw [List.find?_eq_some_iff_getElem]
  refine ⟨by simpa using h, i, hi, rfl, ?_⟩
  intro j hj
  have := List.pairwise_iff_getElem.mp hl j i (Nat.lt_trans hj hi) hi hj
  simp only [Bool.not_eq_eq_eq_not, Bool.not_true, beq_eq_false_iff_ne, ne_eq, ← h]
  exact Int.ne_of_lt this

theorem find?_key_eq_none (hl : l.Pairwise (fun a b => key a ≤ key b)) {x : Int}
    (h : lowerBound key l (x + 1) ≤ lowerBound key l x) :
    l.find? (fun a => key a == x) = none := by
  rw [List.find?_eq_none]
  intro a ha
  obtain ⟨i, hi, rfl⟩ := List.getElem_of_mem ha
  have h1 := lt_lowerBound_iff hl (x := x) hi
  have h2 := lt_lowerBound_iff hl (x := x + 1) hi
  simp only [beq_iff_eq]
  omega

/-- `[b, e]` is a search window for `x` that `fuel` outlasts: an index holding `x`, if there is
one, lies in it. -/
structure Window (key : α → Int) (l : List α) (x : Int) (fuel : Nat) (b e : Int) : Prop where
  nonneg : 0 ≤ b
  lo : b ≤ lowerBound key l x
  hi : lowerBound key l (x + 1) ≤ e + 1
  lt : e < l.length
  fuel : e - b + 1 < fuel

namespace Window
variable {x : Int} {fuel : Nat} {b e : Int}

theorem init (x : Int) :
    Window key l x (l.length + 1) 0 ((l.length : Int) - 1) := by
  have := lowerBound_le_length (key := key) (l := l) (x + 1)
  exact ⟨by omega, by omega, by omega, by omega, by omega⟩

theorem le (w : Window key l x fuel b e) : b ≤ e + 1 := by
  have := w.lo
  have := w.hi
  have := lowerBound_mono (key := key) (l := l) x
  omega

theorem fuel_pos (w : Window key l x fuel b e) : 0 < fuel := by
  have := w.le
  have := w.fuel
  omega

theorem empty (w : Window key l x fuel b e) (h : e < b) :
    b = (lowerBound key l x : Nat) ∧ lowerBound key l (x + 1) = lowerBound key l x := by
  have := w.lo
  have := w.hi
  have := lowerBound_mono (key := key) (l := l) x
  omega

theorem mid (w : Window key l x fuel b e) (h : b ≤ e) :
    ∃ m : Nat, (b + e) / 2 = (m : Int) ∧ m < l.length ∧ b ≤ m ∧ m ≤ e := by
  have hmid : b ≤ (b + e) / 2 ∧ (b + e) / 2 ≤ e := by omega
  obtain ⟨m, hm⟩ := Int.eq_ofNat_of_zero_le (Int.le_trans w.nonneg hmid.1)
  rw [hm] at hmid
  have := w.lt
  exact ⟨m, hm, by omega, hmid⟩

theorem left (hl : l.Pairwise (fun a b => key a ≤ key b)) (w : Window key l x (fuel + 1) b e)
    {m : Nat} (hm : m < l.length) (hbm : b ≤ m) (h : key l[m] < x) :
    Window key l x fuel (m + 1) e := by
  have := (lt_lowerBound_iff hl hm).mpr h
  have := w.fuel
  exact ⟨by omega, by omega, w.hi, w.lt, by omega⟩

theorem right (hl : l.Pairwise (fun a b => key a ≤ key b)) (w : Window key l x (fuel + 1) b e)
    {m : Nat} (hm : m < l.length) (hme : m ≤ e) (h : x < key l[m]) :
    Window key l x fuel b (m - 1) := by
  have := mt (lt_lowerBound_iff hl (x := x + 1) hm).mp (Int.not_lt.mpr h)
  have := w.fuel
  have := w.lt
  exact ⟨w.nonneg, w.lo, by omega, by omega, by omega⟩

end Window

theorem lowerBound_of_key_eq (hl : l.Pairwise (fun a b => key a < key b)) {x : Int} {m : Nat}
    (hm : m < l.length) (h : key l[m] = x) :
    lowerBound key l x = m ∧ lowerBound key l (x + 1) = m + 1 := by
  have hw := hl.imp (fun h => Int.le_of_lt h)
  have := mt (lt_lowerBound_iff hw (x := x) hm).mp (by omega)
  have := (lt_lowerBound_iff hw (x := x + 1) hm).mpr (by omega)
  have := lowerBound_succ_le hl x
  omega

end LowerBound

end Klev
