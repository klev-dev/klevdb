/-
Reachability: every state reached from an empty directory by any sequence of API calls
(publish, delete, consume, get, GC, close + reopen with any options, index removal, migrate,
recover) satisfies the invariant, and its content evolves exactly by the L0 list
semantics (append what was published, remove what Delete reported) — the fidelity
theorem behind C01, C02, C11, C12, C17.
-/
import Klev.Proofs.Open
namespace Klev

theorem get_loaded (l : Log) (hinv : Inv l) (off : Int) : Loaded l (l.get off).1 :=
  (get_loads l off).loaded hinv

theorem gc_segs {l : Log} {h : Seg} (hl : l.segs.getLast? = some h) :
    l.gc.segs = l.segs.dropLast.map (fun s => { s with mem := none }) ++ [h] := by
  have key : ∀ (xs : List Seg) (n k : Nat), n = k + (xs.length + 1) →
      ((xs ++ [h]).zipIdx k).map (fun (x : Seg × Nat) => if x.2 + 1 == n then x.1 else { x.1 with mem := none }) =
        xs.map (fun s => { s with mem := none }) ++ [h] := by
    intro xs
    induction xs with
    | nil => intro n k hn; simp [hn]
    | cons a as ih =>
      intro n k hn
      rw [List.length_cons] at hn
      have hne : (k + 1 == n) = false := beq_eq_false_iff_ne.mpr (by omega)
      simp only [List.cons_append, List.zipIdx_cons, List.map_cons, hne, Bool.false_eq_true, if_false]
      rw [ih n (k + 1) (by omega)]
  unfold Log.gc
  show List.map _ (l.segs.zipIdx 0) = _
  conv => lhs; rw [segs_snoc hl]
  exact key l.segs.dropLast _ 0 (by simp)

theorem gc_forall (Q : Seg → Prop) (l : Log) (hdrop : ∀ s, Q s → Q { s with mem := none })
    (hQ : ∀ s ∈ l.segs, Q s) : ∀ s ∈ l.gc.segs, Q s := by
  cases hl : l.segs.getLast? with
  | none =>
    have : l.gc.segs = [] := by unfold Log.gc; rw [List.getLast?_eq_none_iff.mp hl]; rfl
    rw [this]; exact List.forall_mem_nil _
  | some h =>
    rw [gc_segs hl]
    intro s hs
    rcases List.mem_append.mp hs with h1 | h1
    · obtain ⟨s0, hs0, rfl⟩ := List.mem_map.mp h1
      exact hdrop s0 (hQ s0 (List.dropLast_subset _ hs0))
    · rw [List.mem_singleton.mp h1]; exact hQ h (List.mem_of_getLast? hl)

theorem gc_inv (l : Log) (hinv : Inv l) : Inv l.gc ∧ abs l.gc = abs l := by
  obtain ⟨h, hl⟩ := inv_getLast l hinv
  have hshape : shape l.gc.segs = shape l.segs := by
    rw [gc_segs hl]
    conv => rhs; rw [segs_snoc hl]
    rw [shape_append, shape_append]
    congr 1
    simp [shape, List.map_map, Function.comp_def]
  refine ⟨⟨by rw [hshape]; exact hinv.shape,
    gc_forall IdxOK l (fun s hs => ⟨fun its hi => (nomatch hi), hs.idx⟩) hinv.idx,
    fun hro => by rw [hshape]; exact hinv.next hro, fun hro h' hh' => ?_⟩, by unfold abs; rw [hshape]⟩
  rw [gc_segs hl, List.getLast?_concat] at hh'
  rw [← Option.some.inj hh']
  exact hinv.head hro h hl

/-- One API-level step of a history. `reopen` is Close followed — while closed — by removal
of the index files of the listed segments, an optional package-level Migrate, an optional
package-level Recover, and then Open with freshly drawn options (Check, Recover, eager
migration, versions, rollover, read-only…). A failed Open leaves the files as they are
(the history goes on with the next attempt). -/
inductive Op where
  | publish (batch : List (Int × List UInt8 × List UInt8))
  | delete (offs : List Int)
  | consume (off : Int) (mc : Nat)
  | get (off : Int)
  | gc
  | reopen (rm : List Int) (mig : Option Ver) (rec : Bool) (oo : OpenOpts)

def closedDisk (l : Log) (rm : List Int) (mig : Option Ver) (rec : Bool) : List SegDisk :=
  let d1 := l.disk.map (fun sd => if rm.contains sd.base then { sd with idxf := none } else sd)
  let d2 := match mig with
    | some v => d1.map (segMigrate l.opts.params v v)
    | none => d1
  if rec then mapLast (segRecover l.opts.params) d2 else d2

def stepOp (l : Log) : Op → Log
  | .publish b => (l.publish b).1
  | .delete o => (l.delete o).1
  | .consume off mc => (l.consume off mc).1
  | .get off => (l.get off).1
  | .gc => l.gc
  | .reopen rm mig rec oo =>
    match Log.open (closedDisk l rm mig rec) oo with
    | .ok l' => l'
    | .err _ => l

/-- The L0 list semantics of a step: append what was published (stamped from `next`),
remove exactly what Delete reported, nothing else ever changes. -/
def specStep (s : Spec) (l : Log) : Op → Spec
  | .publish b =>
    if l.opts.readonly then s else ⟨s.live ++ Spec.stampSpec s.next b, s.next + b.length⟩
  | .delete o =>
    match (l.delete o).2 with
    | .ok (del, _) => ⟨Spec.removeAll s.live del, s.next⟩
    | .err _ => s
  | _ => s

theorem closedDisk_ind (R : List SegDisk → Prop) (l : Log) (rm : List Int) (mig : Option Ver) (rec : Bool)
    (h0 : R l.disk)
    (hrm : ∀ d, R d → R (d.map fun sd => if rm.contains sd.base then { sd with idxf := none } else sd))
    (hmig : ∀ v d, R d → R (d.map (segMigrate l.opts.params v v)))
    (hrec : ∀ d, R d → R (mapLast (segRecover l.opts.params) d)) : R (closedDisk l rm mig rec) := by
  unfold closedDisk
  cases mig <;> cases rec
  · exact hrm _ h0
  · exact hrec _ (hrm _ h0)
  · exact hmig _ _ (hrm _ h0)
  · exact hrec _ (hmig _ _ (hrm _ h0))

theorem closedDisk_ok (l : Log) (hinv : Inv l) (rm : List Int) (mig : Option Ver) (rec : Bool) :
    DiskOK (closedDisk l rm mig rec) ∧ absDisk (closedDisk l rm mig rec) = abs l :=
  closedDisk_ind (fun d => DiskOK d ∧ absDisk d = abs l) l rm mig rec (disk_of_inv l hinv)
    (fun d h => (rmidx_ok d h.1 fun sd => rm.contains sd.base = true).imp_right (·.trans h.2))
    (fun v d h => (migrate_ok d h.1 _ v v).imp_right (·.trans h.2))
    (fun d h => (recover_ok d h.1.shape (fun sd hs => h.1.idx sd (List.dropLast_subset _ hs)) _).imp_right
      (·.trans h.2))

/-- **Step theorem.** Every API step keeps the invariant and changes the content exactly as
the L0 list semantics says. -/
theorem step_inv_abs (l : Log) (hinv : Inv l) (op : Op) :
    Inv (stepOp l op) ∧ abs (stepOp l op) = specStep (abs l) l op := by
  cases op with
  | publish b =>
    simp only [stepOp, specStep]
    cases hro : l.opts.readonly with
    | true => rw [publish_readonly hro, if_pos rfl]; exact ⟨hinv, rfl⟩
    | false =>
      rw [if_neg Bool.false_ne_true]
      exact ⟨(publish_rw l hinv hro b).1, (publish_rw l hinv hro b).2.2⟩
  | delete o =>
    obtain ⟨h1, h2⟩ := delete_step l hinv o
    refine ⟨h1, ?_⟩
    simp only [stepOp, specStep]
    cases hr : (l.delete o).2 with
    | err e => rw [hr] at h2; exact h2.of_err
    | ok r =>
      obtain ⟨del, sz⟩ := r
      rw [hr] at h2
      obtain ⟨_, _, hl, hn, _⟩ := h2.of_ok
      show abs _ = ⟨Spec.removeAll (abs l).live del, (abs l).next⟩
      rw [← hl, ← hn]
  | consume off mc =>
    exact ⟨(consume_inv l hinv off mc).1, (consume_inv l hinv off mc).2⟩
  | get off =>
    exact ⟨(get_loaded l hinv off).inv, (get_loaded l hinv off).abs⟩
  | gc => exact gc_inv l hinv
  | reopen rm mig rec oo =>
    simp only [stepOp, specStep]
    obtain ⟨hd, ha⟩ := closedDisk_ok l hinv rm mig rec
    cases ho : Log.open (closedDisk l rm mig rec) oo with
    | err e => exact ⟨hinv, rfl⟩
    | ok l' =>
      obtain ⟨h1, h2, _⟩ := open_spec _ hd oo l' ho
      exact ⟨h1, h2.trans ha⟩

/-- The log after a history. -/
def runOps (l : Log) : List Op → Log
  | [] => l
  | op :: rest => runOps (stepOp l op) rest

def specRun (s : Spec) (l : Log) : List Op → Spec
  | [] => s
  | op :: rest => specRun (specStep s l op) (stepOp l op) rest

/-- **Fidelity / reachability.** From any state satisfying the invariant — in particular
from an empty directory opened with any options — after any finite sequence of steps the
invariant holds and the content is the L0 list semantics of the history. -/
theorem run_inv_abs (l : Log) (hinv : Inv l) (ops : List Op) :
    Inv (runOps l ops) ∧ abs (runOps l ops) = specRun (abs l) l ops := by
  induction ops generalizing l with
  | nil => exact ⟨hinv, rfl⟩
  | cons op rest ih =>
    obtain ⟨h1, h2⟩ := step_inv_abs l hinv op
    have := ih (stepOp l op) h1
    simp only [runOps, specRun]
    rw [← h2]
    exact this

theorem reach_from_empty (oo : OpenOpts) (ops : List Op) :
    ∃ l0, Log.open [] oo = .ok l0 ∧ Inv (runOps l0 ops) ∧
      abs (runOps l0 ops) = specRun ⟨[], 0⟩ l0 ops := by
  obtain ⟨l0, ho, hinv, habs, _⟩ := open_empty oo
  refine ⟨l0, ho, (run_inv_abs l0 hinv ops).1, ?_⟩
  rw [(run_inv_abs l0 hinv ops).2, habs]

/-- The offsets assigned along a history, in order of assignment. -/
def assigned (l : Log) : List Op → List Int
  | [] => []
  | .publish b :: rest =>
    (if l.opts.readonly then [] else (Spec.stampSpec (abs l).next b).map (·.off)) ++
      assigned (stepOp l (.publish b)) rest
  | op :: rest => assigned (stepOp l op) rest

theorem specStep_cases (σ : Spec) (l : Log) (op : Op) :
    (∃ b, op = .publish b ∧ l.opts.readonly = false ∧
      specStep σ l op = ⟨σ.live ++ Spec.stampSpec σ.next b, σ.next + b.length⟩) ∨
    (specStep σ l op).live.Sublist σ.live ∧ (specStep σ l op).next = σ.next := by
  cases op with
  | publish b =>
    simp only [specStep]
    cases hro : l.opts.readonly with
    | true => exact Or.inr ⟨List.Sublist.refl _, rfl⟩
    | false => exact Or.inl ⟨b, rfl, rfl, rfl⟩
  | delete o =>
    simp only [specStep]
    split
    · exact Or.inr ⟨List.filter_sublist, rfl⟩
    · exact Or.inr ⟨List.Sublist.refl _, rfl⟩
  | _ => exact Or.inr ⟨List.Sublist.refl _, rfl⟩

theorem step_next_ge (l : Log) (hinv : Inv l) (op : Op) : (abs l).next ≤ (abs (stepOp l op)).next := by
  rw [(step_inv_abs l hinv op).2]
  rcases specStep_cases (abs l) l op with ⟨b, _, _, h⟩ | ⟨_, h⟩ <;> rw [h]
  · exact Int.le_add_of_nonneg_right (Int.natCast_nonneg _)
  · exact Int.le_refl _

/-- **Never reused.** Along any history (deletes of the newest messages, of everything,
close + reopen with any options included) the offsets assigned by Publish are strictly
increasing in order of assignment — in particular no offset is ever assigned twice — and
all lie at or above the next offset of the starting state. -/
theorem assigned_increasing (l : Log) (hinv : Inv l) (ops : List Op) :
    (assigned l ops).Pairwise (fun a b => a < b) ∧ ∀ x ∈ assigned l ops, (abs l).next ≤ x := by
  induction ops generalizing l with
  | nil => exact ⟨List.Pairwise.nil, by intro x h; cases h⟩
  | cons op rest ih =>
    have hstep := step_inv_abs l hinv op
    have hge := step_next_ge l hinv op
    obtain ⟨ih1, ih2⟩ := ih (stepOp l op) hstep.1
    have hrest : (assigned (stepOp l op) rest).Pairwise (fun a b => a < b) ∧
        ∀ x ∈ assigned (stepOp l op) rest, (abs l).next ≤ x :=
      ⟨ih1, fun x hx => Int.le_trans hge (ih2 x hx)⟩
    cases op with
    | publish b =>
      simp only [assigned]
      cases hro : l.opts.readonly with
      | true =>
        simp only [if_true, List.nil_append]
        exact hrest
      | false =>
        simp only [Bool.false_eq_true, if_false]
        have hnext : (abs (stepOp l (.publish b))).next = (abs l).next + b.length := by
          rw [hstep.2, specStep, hro, if_neg Bool.false_ne_true]
        rw [hnext] at ih2
        refine ⟨?_, ?_⟩
        · rw [List.pairwise_append]
          refine ⟨?_, ih1, ?_⟩
          · rw [List.pairwise_map]
            exact stampSpec_sorted b _
          · intro x hx y hy
            obtain ⟨m, hm, rfl⟩ := List.mem_map.mp hx
            exact Int.lt_of_lt_of_le (stampSpec_bounds b _ m hm).2 (ih2 y hy)
        · intro x hx
          rcases List.mem_append.mp hx with h | h
          · obtain ⟨m, hm, rfl⟩ := List.mem_map.mp h
            exact (stampSpec_bounds b _ m hm).1
          · exact hrest.2 x h
    | _ => exact hrest

end Klev
