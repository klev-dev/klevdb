/-
Reader level. The items of an index name the records of its segment one by one (`Names`), so
the index's answer about items is the answer to the same question about records.
-/
import Klev.Proofs.Inv
namespace Klev

theorem ItemsFor.pos_nonneg {v : Ver} {recs : List Msg} {its : List Item} (h : ItemsFor v recs its)
    (k : Nat) (hk : k < its.length) : 0 ≤ (its[k]).pos := by
  obtain ⟨h2, _, _, hp⟩ := h.getElem k hk
  have h0 : 0 ≤ hdrSize v := by cases v <;> decide
  rw [hp]
  exact Int.le_trans h0 (layoutFrom_ge v _ recs _ (List.getElem_mem h2))

inductive All2 {α β : Type} (R : α → β → Prop) : List α → List β → Prop
  | nil : All2 R [] []
  | cons {a : α} {b : β} {as : List α} {bs : List β} : R a b → All2 R as bs → All2 R (a :: as) (b :: bs)

namespace All2
variable {α β γ : Type} {R : α → β → Prop} {l1 : List α} {l2 : List β}

theorem of_getElem : ∀ (l1 : List α) (l2 : List β), l1.length = l2.length →
    (∀ k (h1 : k < l1.length) (h2 : k < l2.length), R l1[k] l2[k]) → All2 R l1 l2 := by
  intro l1
  induction l1 with
  | nil =>
    intro l2 hl _
    cases l2 with
    | nil => exact .nil
    | cons b bs => simp at hl
  | cons a as ih =>
    intro l2 hl h
    cases l2 with
    | nil => simp at hl
    | cons b bs =>
      refine .cons (h 0 (by simp) (by simp)) (ih bs (by simpa using hl) ?_)
      intro k h1 h2
      have := h (k + 1) (by simpa using h1) (by simpa using h2)
      simpa using this

theorem and_map (h : All2 R l1 l2) {f : α → γ} {g : β → γ} (hm : l1.map f = l2.map g) :
    All2 (fun a b => R a b ∧ f a = g b) l1 l2 := by
  induction h with
  | nil => exact .nil
  | cons hab _ ih =>
    simp only [List.map_cons, List.cons.injEq] at hm
    exact .cons ⟨hab, hm.1⟩ (ih hm.2)

theorem map_eq (h : All2 R l1 l2) {f : α → γ} {g : β → γ} (hfg : ∀ a b, R a b → f a = g b) :
    l1.map f = l2.map g := by
  induction h with
  | nil => rfl
  | cons hab _ ih => simp only [List.map_cons, hfg _ _ hab, ih]

theorem filter (h : All2 R l1 l2) {p : α → Bool} {q : β → Bool}
    (hpq : ∀ a b, R a b → p a = q b) : All2 R (l1.filter p) (l2.filter q) := by
  induction h with
  | nil => exact .nil
  | @cons a b as bs hab _ ih =>
    simp only [List.filter_cons, hpq a b hab]
    cases q b
    · exact ih
    · exact .cons hab ih

theorem find? (h : All2 R l1 l2) {p : α → Bool} {q : β → Bool}
    (hpq : ∀ a b, R a b → p a = q b) :
    match l1.find? p with
    | some a => ∃ b, l2.find? q = some b ∧ R a b
    | none => l2.find? q = none := by
  induction h with
  | nil => rfl
  | @cons a b as bs hab _ ih =>
    simp only [List.find?_cons, hpq a b hab]
    cases q b
    · exact ih
    · exact ⟨b, rfl, hab⟩

theorem ends (h : All2 R l1 l2) : (l1 = [] ∧ l2 = []) ∨
    ∃ a b a' b', l1.head? = some a ∧ l2.head? = some b ∧ R a b ∧
      l1.getLast? = some a' ∧ l2.getLast? = some b' ∧ R a' b' := by
  induction h with
  | nil => exact Or.inl ⟨rfl, rfl⟩
  | @cons a b as bs hab _ ih =>
    right
    rcases ih with ⟨rfl, rfl⟩ | ⟨x, y, a', b', hx, hy, _, ha', hb', hab'⟩
    · exact ⟨a, b, a, b, rfl, rfl, hab, rfl, rfl, hab⟩
    · obtain ⟨as', rfl⟩ := List.head?_eq_some_iff.mp hx
      obtain ⟨bs', rfl⟩ := List.head?_eq_some_iff.mp hy
      exact ⟨a, b, a', b', rfl, rfl, hab, by rwa [List.getLast?_cons_cons],
        by rwa [List.getLast?_cons_cons], hab'⟩

end All2

def Names (s : Seg) (it : Item) (m : Msg) : Prop := readAt s it.pos = some m ∧ it.off = m.off

theorem ItemsFor.names {s : Seg} {its : List Item} (h : ItemsFor s.ver s.recs its) :
    All2 (Names s) its s.recs := by
  apply All2.of_getElem _ _ h.length
  intro k h1 h2
  obtain ⟨_, hr⟩ := readAt_item h k h1
  obtain ⟨_, _, ho, _⟩ := h.getElem k h1
  exact ⟨hr, ho⟩

theorem pairwise_head?_le {α : Type} {key : α → Int} {l : List α}
    (h : l.Pairwise (fun a b => key a ≤ key b)) {a : α} (hh : l.head? = some a) :
    ∀ m ∈ l, key a ≤ key m := by
  obtain ⟨t, rfl⟩ := List.head?_eq_some_iff.mp hh
  intro m hm
  rcases List.mem_cons.mp hm with rfl | hm
  · exact Int.le_refl _
  · exact (List.pairwise_cons.mp h).1 m hm

theorem pairwise_le_getLast {α : Type} {key : α → Int} {l : List α}
    (h : l.Pairwise (fun a b => key a ≤ key b)) {la : α} (hl : l.getLast? = some la) :
    ∀ m ∈ l, key m ≤ key la := by
  intro m hm
  obtain ⟨ys, rfl⟩ := List.getLast?_eq_some_iff.mp hl
  rcases List.mem_append.mp hm with h1 | h1
  · exact (List.pairwise_append.mp h).2.2 m h1 la (List.mem_singleton.mpr rfl)
  · rw [List.mem_singleton.mp h1]
    exact Int.le_refl _

theorem getLast?_take_eq_none {α : Type} {l : List α} {n : Nat} (hn : 1 ≤ n) :
    (l.take n).getLast? = none ↔ l = [] := by
  rw [List.getLast?_eq_none_iff, List.take_eq_nil_iff]
  constructor
  · rintro (h | h)
    · exact absurd h (Nat.ne_of_gt hn)
    · exact h
  · exact Or.inr

/-- The messages of a segment a cursor at `off` still has to see. -/
def segFrom (recs : List Msg) (off : Int) : List Msg := recs.filter (fun m => decide (off ≤ m.off))

theorem mem_segFrom {recs : List Msg} {off : Int} {m : Msg} :
    m ∈ segFrom recs off ↔ m ∈ recs ∧ off ≤ m.off := by
  simp [segFrom]

theorem readerConsume_eq (c : RCtx) (s : Seg) (its : List Item) (off : Int) (mc : Nat)
    (hit : ItemsFor s.ver s.recs its) (hs : s.recs.Pairwise (fun a b => a.off < b.off))
    (hlow : ∀ m ∈ s.recs, 0 ≤ m.off) (hn : off ≠ offsetNewest) (hmc : 1 ≤ mc) :
    readerConsume c s its off mc =
      match ((segFrom s.recs off).take mc).getLast? with
      | some lm => .ok (lm.off + 1, (segFrom s.recs off).take mc)
      | none =>
        if c.head = true ∧ off ≤ c.nextOff then .ok (c.nextOff, [])
        else .ierr (if s.recs = [] then .empty else .afterEnd) := by
  have hlen := hit.length
  have h0 : ∀ it ∈ its, 0 ≤ it.off := by
    intro it hi
    obtain ⟨k, hk, rfl⟩ := List.getElem_of_mem hi
    obtain ⟨_, h3, ho, _⟩ := hit.getElem k hk
    rw [ho]
    exact hlow _ (List.getElem_mem h3)
  -- the cursor's place in the index is its place in the records
  have hF : segFrom s.recs off = s.recs.drop (lowerBound Item.off its off) := by
    rw [hit.lowerBound_off]
    exact filter_le_eq_drop (key := Msg.off) (hs.imp Int.le_of_lt) off
  rw [hF]
  unfold readerConsume ixConsume
  rw [if_neg hn, Index.consume_lowerBound its off (hit.sorted hs) h0 hn]
  cases hk : its[lowerBound Item.off its off]? with
  | none =>
    have hle := List.getElem?_eq_none_iff.mp hk
    have hnil : its = [] ↔ s.recs = [] := by
      rw [← List.length_eq_zero_iff, ← List.length_eq_zero_iff, hlen]
    rw [List.drop_eq_nil_of_le (hlen ▸ hle)]
    by_cases hre : s.recs = []
    · by_cases hc : c.head = true ∧ off ≤ c.nextOff <;> simp [hc, hre, hnil.mpr hre]
    · by_cases hc : c.head = true ∧ off ≤ c.nextOff <;> simp [hc, hre, mt hnil.mp hre]
  | some it =>
    obtain ⟨hlt, rfl⟩ := List.getElem?_eq_some_iff.mp hk
    obtain ⟨last, hl⟩ : ∃ last, its.getLast? = some last :=
      ⟨_, List.getLast?_eq_some_getLast (List.ne_nil_of_length_pos (Nat.zero_lt_of_lt hlt))⟩
    have hp1 : ¬ (its[lowerBound Item.off its off]).pos = -1 := by
      have := hit.pos_nonneg _ hlt; omega
    simp only [hl, hp1, if_false, consumeFile_item hit _ hlt last hl mc]
    cases hT : ((s.recs.drop (lowerBound Item.off its off)).take mc).getLast? with
    | some lm => rfl
    | none =>
      have := congrArg List.length ((getLast?_take_eq_none hmc).mp hT)
      simp only [List.length_drop, List.length_nil] at this
      omega

end Klev
