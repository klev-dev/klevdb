/-
`segment.Consume` / `segment.Get` select the last segment whose base offset is not above
the requested offset (the first segment when there is none), for every strictly
increasing list of base offsets and every offset; no panic, no divergence.
-/
import Klev.Proofs.IndexSearch
namespace Klev

def SortedB (bases : List Int) : Prop := bases.Pairwise (fun a b => a < b)

theorem SortedB.le {bases : List Int} (h : SortedB bases) :
    bases.Pairwise (fun a b => a ≤ b) := h.imp (fun h => Int.le_of_lt h)

/-- `i` is the segment an offset belongs to: the last one with `base ≤ off`. -/
def IsSegFor (bases : List Int) (off : Int) (i : Nat) : Prop :=
  ∃ h : i < bases.length, bases[i] ≤ off ∧ ∀ j, i < j → ∀ hj : j < bases.length, off < bases[j]

theorem isSegFor_lowerBound {bases : List Int} {off : Int} (hs : SortedB bases)
    (h0 : 0 < lowerBound (fun a => a) bases (off + 1)) :
    IsSegFor bases off (lowerBound (fun a => a) bases (off + 1) - 1) := by
  have hn := lowerBound_le_length (key := fun a => a) (l := bases) (off + 1)
  have hlt := Nat.sub_lt h0 Nat.one_pos
  have hi := Nat.lt_of_lt_of_le hlt hn
  refine ⟨hi, Int.le_of_lt_add_one ((lt_lowerBound_iff (key := fun a => a) hs.le hi).mp hlt),
    fun j hj hjl => ?_⟩
  have hnj : ¬ j < lowerBound (fun a => a) bases (off + 1) :=
    Nat.not_lt.mpr (Nat.le_of_pred_lt hj)
  have := mt (lt_lowerBound_iff (key := fun a => a) hs.le (x := off + 1) hjl).mpr hnj
  exact Int.lt_of_add_one_le (Int.not_lt.mp this)

theorem SegSearch.loop_eq (bases : List Int) (off : Int) (hs : SortedB bases)
    (h0 : 0 < lowerBound (fun a => a) bases (off + 1))
    (hn : lowerBound (fun a => a) bases (off + 1) < bases.length) (fuel : Nat) :
    ∀ (b e : Int), Window (fun a => a) bases off fuel b e →
      SegSearch.loop bases off fuel b e =
        .ok ((lowerBound (fun a => a) bases (off + 1) - 1 : Nat) : Int) := by
  induction fuel with
  | zero => exact fun b e w => absurd w.fuel_pos (Nat.lt_irrefl 0)
  | succ fuel ih =>
    intro b e w
    rw [SegSearch.loop]
    by_cases hlt : b < e
    · obtain ⟨m, hm, hml, hbm, hme⟩ := w.mid (Int.le_of_lt hlt)
      simp only [hlt, if_true, hm, getI_natCast bases hml]
      by_cases h1 : bases[m] < off
      · rw [if_pos h1]
        exact ih _ _ (w.left hs.le hml hbm h1)
      · by_cases h2 : bases[m] > off
        · rw [if_neg h1, if_pos h2]
          exact ih _ _ (w.right hs.le hml hme h2)
        · have heq : bases[m] = off := Int.le_antisymm (Int.not_lt.mp h2) (Int.not_lt.mp h1)
          rw [if_neg h1, if_neg h2, (lowerBound_of_key_eq (key := fun a => a) hs hml heq).2,
            Nat.add_sub_cancel]
    · -- at most one index is left: `b` is the lower bound of `off + 1` or the index before it
      obtain ⟨k, rfl⟩ := Int.eq_ofNat_of_zero_le w.nonneg
      have hku : k ≤ lowerBound (fun a => a) bases (off + 1) ∧
          lowerBound (fun a => a) bases (off + 1) ≤ k + 1 := by
        have := w.lo
        have := w.hi
        have := lowerBound_mono (key := fun a : Int => a) (l := bases) off
        omega
      have hk : k < bases.length := Nat.lt_of_le_of_lt hku.1 hn
      have hiff := lt_lowerBound_iff (key := fun a => a) hs.le (x := off + 1) hk
      generalize lowerBound (fun a => a) bases (off + 1) = u at h0 hn hku hiff ⊢
      rw [if_neg hlt, getI_natCast bases hk]
      dsimp only
      by_cases h1 : bases[k] > off
      · have hnk : ¬ k < u := mt hiff.mp (Int.not_lt.mpr (Int.add_one_le_of_lt h1))
        have huk : u = k := Nat.le_antisymm (Nat.not_lt.mp hnk) hku.1
        subst huk
        obtain ⟨j, rfl⟩ := Nat.exists_eq_add_one_of_ne_zero (Nat.ne_of_gt h0)
        rw [if_pos h1, Int.natCast_succ, Int.add_sub_cancel,
          getI_natCast bases (Nat.lt_of_succ_lt hk)]
        rfl
      · have hlt1 : bases[k] < off + 1 := Int.lt_add_one_of_le (Int.not_lt.mp h1)
        have : u = k + 1 := Nat.le_antisymm hku.2 (hiff.mpr hlt1)
        rw [if_neg h1, this]
        rfl

/-- `segment.Consume`: for an offset above the first base, the segment it belongs to. -/
theorem SegSearch.consume_spec (bases : List Int) (off : Int) (hs : SortedB bases)
    (hne : bases ≠ []) (h1 : off ≠ offsetOldest) (h2 : off ≠ offsetNewest)
    (hf : ∀ h : 0 < bases.length, bases[0] < off) :
    ∃ i : Nat, SegSearch.consume bases off = .ok (i : Int) ∧ IsSegFor bases off i := by
  have h0 : 0 < bases.length := List.length_pos_iff.mpr hne
  have hn : bases.length - 1 < bases.length := Nat.sub_lt h0 Nat.one_pos
  have hf0 := hf h0
  have hlb0 := (lt_lowerBound_iff (key := fun a => a) hs.le (x := off + 1) h0).mpr
    (Int.lt_add_one_of_le (Int.le_of_lt hf0))
  have hlbn := lt_lowerBound_iff (key := fun a => a) hs.le (x := off + 1) hn
  have hle := lowerBound_le_length (key := fun a => a) (l := bases) (off + 1)
  refine ⟨_, ?_, isSegFor_lowerBound hs hlb0⟩
  have c1 : ¬ off ≤ bases[0] := Int.not_le.mpr hf0
  simp only [SegSearch.consume, List.head?_eq_getElem?, List.getLast?_eq_getElem?,
    List.getElem?_eq_getElem h0, List.getElem?_eq_getElem hn, h1, h2, c1, if_false]
  by_cases c2 : bases[bases.length - 1] ≤ off
  · have hlt := hlbn.mpr (Int.lt_add_one_of_le c2)
    have hlb : lowerBound (fun a => a) bases (off + 1) = bases.length :=
      Nat.le_antisymm hle (Nat.le_of_pred_lt hlt)
    rw [if_pos c2, hlb, Int.natCast_sub h0, Int.natCast_one]
  · have hc : off + 1 ≤ bases[bases.length - 1] := Int.add_one_le_of_lt (Int.not_le.mp c2)
    have hlb := Nat.lt_of_le_of_lt (lowerBound_le_of_le (key := fun a => a) hn hc) hn
    rw [if_neg c2]
    exact SegSearch.loop_eq bases off hs hlb0 hlb _ _ _ (Window.init off)

/-- `segment.Consume` at or below the first base (and for `OffsetOldest`): the first segment. -/
theorem SegSearch.consume_first (bases : List Int) (off : Int) (hne : bases ≠ [])
    (h : off = offsetOldest ∨ (off ≠ offsetNewest ∧ ∀ h : 0 < bases.length, off ≤ bases[0])) :
    SegSearch.consume bases off = .ok 0 := by
  have h0 : 0 < bases.length := List.length_pos_iff.mpr hne
  have hn : bases.length - 1 < bases.length := Nat.sub_lt h0 Nat.one_pos
  simp only [SegSearch.consume, List.head?_eq_getElem?, List.getLast?_eq_getElem?,
    List.getElem?_eq_getElem h0, List.getElem?_eq_getElem hn]
  rcases h with rfl | ⟨h2, h3⟩
  · rw [if_pos rfl]
  · by_cases c : off = offsetOldest
    · rw [if_pos c]
    · rw [if_neg c, if_neg h2, if_pos (h3 h0)]

theorem SegSearch.consume_newest (bases : List Int) (hne : bases ≠ []) :
    SegSearch.consume bases offsetNewest = .ok ((bases.length : Int) - 1) := by
  simp [SegSearch.consume, List.head?_eq_some_head hne, List.getLast?_eq_some_getLast hne,
    offsetNewest, offsetOldest]

theorem SegSearch.get_oldest (bases : List Int) (hne : bases ≠ []) :
    SegSearch.get bases offsetOldest = .ok (.ok 0) := by
  simp [SegSearch.get, List.head?_eq_some_head hne, List.getLast?_eq_some_getLast hne]

theorem SegSearch.get_newest (bases : List Int) (hne : bases ≠ []) :
    SegSearch.get bases offsetNewest = .ok (.ok ((bases.length : Int) - 1)) := by
  simp [SegSearch.get, List.head?_eq_some_head hne, List.getLast?_eq_some_getLast hne,
    offsetNewest, offsetOldest]

/-- `segment.Get` for a non-relative offset: before the first base it reports
"relative" (first base 0) or "before start"; otherwise the segment the offset belongs to. -/
theorem SegSearch.get_spec (bases : List Int) (off : Int) (hs : SortedB bases)
    (hne : bases ≠ []) (h1 : off ≠ offsetOldest) (h2 : off ≠ offsetNewest) :
    (∃ h0 : 0 < bases.length, off < bases[0] ∧
        SegSearch.get bases off = .ok (.error (if bases[0] = 0 then .relative else .beforeStart))) ∨
    (∃ i : Nat, SegSearch.get bases off = .ok (.ok (i : Int)) ∧ IsSegFor bases off i) := by
  have h0 : 0 < bases.length := List.length_pos_iff.mpr hne
  have hn : bases.length - 1 < bases.length := Nat.sub_lt h0 Nat.one_pos
  simp only [SegSearch.get, List.head?_eq_getElem?, List.getLast?_eq_getElem?,
    List.getElem?_eq_getElem h0, List.getElem?_eq_getElem hn, h1, h2, if_false]
  by_cases c1 : off < bases[0]
  · left
    refine ⟨h0, c1, ?_⟩
    rw [if_pos c1]
    exact (apply_ite (fun x => Except.ok (Except.error x)) _ _ _).symm
  · right
    have hlb0 := (lt_lowerBound_iff (key := fun a => a) hs.le (x := off + 1) h0).mpr
      (Int.lt_add_one_of_le (Int.not_lt.mp c1))
    have hlbn := lt_lowerBound_iff (key := fun a => a) hs.le (x := off + 1) hn
    have hle := lowerBound_le_length (key := fun a => a) (l := bases) (off + 1)
    refine ⟨_, ?_, isSegFor_lowerBound hs hlb0⟩
    rw [if_neg c1]
    by_cases c2 : off = bases[0]
    · subst c2
      rw [if_pos rfl, (lowerBound_of_key_eq (key := fun a => a) hs h0 rfl).2]
      rfl
    by_cases c3 : bases[bases.length - 1] ≤ off
    · have hlt := hlbn.mpr (Int.lt_add_one_of_le c3)
      have hlb : lowerBound (fun a => a) bases (off + 1) = bases.length :=
        Nat.le_antisymm hle (Nat.le_of_pred_lt hlt)
      rw [if_neg c2, if_pos c3, hlb, Int.natCast_sub h0, Int.natCast_one]
    · have hc : off + 1 ≤ bases[bases.length - 1] := Int.add_one_le_of_lt (Int.not_le.mp c3)
      have hlb := Nat.lt_of_le_of_lt (lowerBound_le_of_le (key := fun a => a) hn hc) hn
      rw [if_neg c2, if_neg c3, SegSearch.loop_eq bases off hs hlb0 hlb _ _ _ (Window.init off)]

end Klev
