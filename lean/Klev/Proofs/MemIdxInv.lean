/-
`MemIdx` ("a segment whose index is in memory has an index file", the extra clause the
`Stat` theorem needs) is preserved by every API step and established by every open except
the read-only open of an empty directory. The clause is of the form "every segment
satisfies …", so each step is an instance of the `*_forall` lemmas.
Hence `stat_reachable`.
-/
import Klev.Proofs.StatOK
import Klev.Proofs.ExtSteps
namespace Klev

/-- `index.OpenWriter` creates the index file when it is missing: a head always has one. -/
theorem openWriter_memIdx (o : Opts) (s : Seg) (nt : Int) :
    (openWriter o s nt).1.idxf.isSome = true := by
  obtain ⟨v, its, f, hr, _⟩ := openWriter_out o s nt
  rw [hr]
  rfl

def MemIdxSeg (s : Seg) : Prop := s.mem.isSome = true → s.idxf.isSome = true

theorem Loads.memIdx {l l' : Log} (h : Loads l l') (hmi : MemIdx l) : MemIdx l' :=
  (h.forall MemIdxSeg l.opts (fun s hs => loadIndex_memIdx l.opts s hs) rfl hmi).1

theorem consume_memIdx (l : Log) (hmi : MemIdx l) (off : Int) (mc : Nat) :
    MemIdx (l.consume off mc).1 :=
  (consume_loads l off mc).memIdx hmi

theorem get_memIdx (l : Log) (hmi : MemIdx l) (off : Int) : MemIdx (l.get off).1 :=
  (get_loads l off).memIdx hmi

theorem nextOffset_memIdx (l : Log) (hmi : MemIdx l) : MemIdx (l.nextOffset).1 := by
  unfold Log.nextOffset
  split
  · split
    · exact hmi
    · next l1 _ _ c hw => exact withIndex_memIdx l (l.segs.length - 1) hmi hw
  · exact hmi

theorem gc_memIdx (l : Log) (hmi : MemIdx l) : MemIdx l.gc :=
  gc_forall MemIdxSeg l (fun _ _ h => nomatch h) hmi

theorem publish_memIdx (l : Log) (hmi : MemIdx l) (b : List (Int × List UInt8 × List UInt8)) :
    MemIdx (l.publish b).1 := by
  refine publish_forall MemIdxSeg l b hmi (fun _ => rfl) (fun _ h _ hQ hm => ?_)
  have hm' : (h.mem.map _).isSome = true := hm
  show (h.idxf.map _).isSome = true
  rw [Option.isSome_map] at hm' ⊢
  exact hQ hm'

theorem delete_memIdx (l : Log) (hmi : MemIdx l) (offs : List Int) : MemIdx (l.delete offs).1 :=
  delete_forall MemIdxSeg l offs hmi (fun _ => rfl)
    (fun _ _ _ _ => ⟨fun _ => rfl, fun _ => openWriter_memIdx _ _ _⟩)

theorem toSeg_memIdx (d : SegDisk) : d.toSeg.mem.isSome = true → d.toSeg.idxf.isSome = true := by
  intro h; simp [SegDisk.toSeg] at h

/-- Every open except the read-only open of an empty directory establishes the clause. -/
theorem open_memIdx (disk : List SegDisk) (oo : OpenOpts) (l : Log) (ho : Log.open disk oo = .ok l)
    (hne : disk ≠ [] ∨ oo.opts.readonly = false) : MemIdx l := by
  rcases open_ok ho with ⟨hro, rfl⟩ | ⟨_, pre, h2, _, rfl⟩
  · have hd : disk ≠ [] := by
      rcases hne with h | h
      · exact h
      · rw [h] at hro; cases hro
    rw [if_neg hd]
    intro s hs
    obtain ⟨d, _, rfl⟩ := List.mem_map.mp hs
    exact toSeg_memIdx d
  · intro s hs
    rcases List.mem_append.mp hs with h | h
    · obtain ⟨d, _, rfl⟩ := List.mem_map.mp h
      exact toSeg_memIdx d
    · rw [List.mem_singleton.mp h]
      intro _; exact openWriter_memIdx _ _ _

theorem step_memIdx (l : Log) (hne : l.segs ≠ []) (hmi : MemIdx l) (op : Op) :
    MemIdx (stepOp l op) := by
  cases op with
  | publish b => exact publish_memIdx l hmi b
  | delete o => exact delete_memIdx l hmi o
  | consume off mc => exact consume_memIdx l hmi off mc
  | get off => exact get_memIdx l hmi off
  | gc => exact gc_memIdx l hmi
  | reopen rm mig rec oo =>
    simp only [stepOp]
    cases ho : Log.open (closedDisk l rm mig rec) oo with
    | err e => exact hmi
    | ok l' => exact open_memIdx _ oo l' ho (Or.inl (closedDisk_ne l hne rm mig rec))

theorem run_memIdx (l : Log) (hinv : Inv l) (hmi : MemIdx l) (ops : List Op) :
    MemIdx (runOps l ops) := by
  induction ops generalizing l with
  | nil => exact hmi
  | cons op rest ih =>
    simp only [runOps]
    exact ih (stepOp l op) (step_inv_abs l hinv op).1
      (step_memIdx l hinv.segs_ne hmi op)

/-- From a read-write open of an empty directory, every reachable state satisfies the clause
(and `Inv`). -/
theorem reach_memIdx (oo : OpenOpts) (hrw : oo.opts.readonly = false) (ops : List Op) :
    ∃ l0, Log.open [] oo = .ok l0 ∧ Inv (runOps l0 ops) ∧ MemIdx (runOps l0 ops) := by
  obtain ⟨l0, ho, hinv, _, _⟩ := open_empty oo
  exact ⟨l0, ho, (run_inv_abs l0 hinv ops).1,
    run_memIdx l0 hinv (open_memIdx [] oo l0 ho (Or.inr hrw)) ops⟩

/-- From a read-write open of an empty directory, after any history of publish / delete /
consume / get / GC / close-and-reopen (with any options, index files removed, migration,
recovery), `Stat` succeeds and counts exactly the live messages and the segments. -/
theorem stat_reachable (oo : OpenOpts) (hrw : oo.opts.readonly = false) (ops : List Op) :
    ∃ l0, Log.open [] oo = .ok l0 ∧
      ∃ st, ((runOps l0 ops).stat).2 = .ok st ∧
        st.messages = ((abs (runOps l0 ops)).live.length : Int) ∧
        st.segments = ((runOps l0 ops).segs.length : Int) ∧
        Spec.StatOK (abs (runOps l0 ops)) ((runOps l0 ops).stat).2 := by
  obtain ⟨l0, ho, hinv, hmi⟩ := reach_memIdx oo hrw ops
  obtain ⟨st, hst, hmsg, hseg, _⟩ := stat_spec _ hinv hmi
  exact ⟨l0, ho, st, hst, hmsg, hseg, stat_ok _ hinv hmi⟩

end Klev

#print axioms Klev.openWriter_memIdx
#print axioms Klev.consume_memIdx
#print axioms Klev.get_memIdx
#print axioms Klev.nextOffset_memIdx
#print axioms Klev.gc_memIdx
#print axioms Klev.publish_memIdx
#print axioms Klev.delete_memIdx
#print axioms Klev.open_memIdx
#print axioms Klev.step_memIdx
#print axioms Klev.reach_memIdx
#print axioms Klev.stat_reachable
