/-
Close / reopen: the files of a log that satisfies the invariant open — with any options,
after removing any index files, after migrating or recovering while closed — to a log
that satisfies the invariant and has the same content. `open_ok` says once what a
successful `Open` returns; the facts about a successful `Open` are read off it.
-/
import Klev.Proofs.Delete
namespace Klev

def shapeD (d : List SegDisk) : Shape := d.map (fun s => (s.base, s.recs))

/-- A directory of clean segments. -/
structure DiskOK (d : List SegDisk) : Prop where
  shape : ShapeOK (shapeD d)
  idx : ∀ sd ∈ d, ∀ f, sd.idxf = some f → ItemsFor sd.ver sd.recs f.items

def absDisk (d : List SegDisk) : Spec := absShape (shapeD d)

theorem shapeD_disk (l : Log) : shapeD l.disk = shape l.segs := by
  simp [shapeD, Log.disk, shape, Seg.toDisk, List.map_map, Function.comp_def]

theorem disk_of_inv (l : Log) (hinv : Inv l) : DiskOK l.disk ∧ absDisk l.disk = abs l := by
  refine ⟨⟨by rw [shapeD_disk]; exact hinv.shape, ?_⟩, by unfold absDisk abs; rw [shapeD_disk]⟩
  intro sd hsd f hf
  unfold Log.disk at hsd
  obtain ⟨s, hs, rfl⟩ := List.mem_map.mp hsd
  exact (hinv.idx s hs).idx f hf

theorem shape_toSeg (d : List SegDisk) : shape (d.map SegDisk.toSeg) = shapeD d := by
  simp [shape, shapeD, SegDisk.toSeg, List.map_map, Function.comp_def]

theorem toSeg_idxOK (sd : SegDisk) (h : ∀ f, sd.idxf = some f → ItemsFor sd.ver sd.recs f.items) :
    IdxOK sd.toSeg := by
  refine ⟨?_, h⟩
  intro its hi; simp [SegDisk.toSeg] at hi

/-- The index file of a segment on disk is exact (or absent). -/
def Crash.Exact (sd : SegDisk) : Prop := ∀ f, sd.idxf = some f → ItemsFor sd.ver sd.recs f.items

open Crash (Exact)

theorem shapeD_map {d : List SegDisk} (f : SegDisk → SegDisk)
    (hf : ∀ sd ∈ d, (f sd).base = sd.base ∧ (f sd).recs = sd.recs) : shapeD (d.map f) = shapeD d := by
  unfold shapeD
  rw [List.map_map]
  exact List.map_congr_left fun s hs => by simp only [Function.comp, (hf s hs).1, (hf s hs).2]

theorem diskOK_map {d : List SegDisk} (f : SegDisk → SegDisk)
    (hf : ∀ sd ∈ d, (f sd).base = sd.base ∧ (f sd).recs = sd.recs)
    (hx : ∀ sd ∈ d, Exact sd → Exact (f sd)) (h : DiskOK d) :
    DiskOK (d.map f) ∧ absDisk (d.map f) = absDisk d := by
  have hs := shapeD_map f hf
  refine ⟨⟨by rw [hs]; exact h.shape, fun sd hsd => ?_⟩, by unfold absDisk; rw [hs]⟩
  obtain ⟨sd0, hsd0, rfl⟩ := List.mem_map.mp hsd
  exact hx sd0 hsd0 (h.idx sd0 hsd0)

theorem rmidx_ok (d : List SegDisk) (h : DiskOK d) (p : SegDisk → Prop) [DecidablePred p] :
    DiskOK (d.map (fun sd => if p sd then { sd with idxf := none } else sd)) ∧
    absDisk (d.map (fun sd => if p sd then { sd with idxf := none } else sd)) = absDisk d := by
  refine diskOK_map _ (fun sd _ => ?_) (fun sd _ hx => ?_) h
  · split <;> exact ⟨rfl, rfl⟩
  · split
    · exact fun f hf => nomatch hf
    · exact hx

theorem segMigrate_shape (p : Params) (mv iv : Ver) (s : SegDisk) :
    (segMigrate p mv iv s).base = s.base ∧ (segMigrate p mv iv s).recs = s.recs := by
  unfold segMigrate
  split <;> exact ⟨rfl, rfl⟩

theorem shapeD_migrate (p : Params) (mv iv : Ver) (d : List SegDisk) :
    shapeD (d.map (segMigrate p mv iv)) = shapeD d :=
  shapeD_map _ fun s _ => segMigrate_shape p mv iv s

theorem migrate_ok (d : List SegDisk) (h : DiskOK d) (p : Params) (mv iv : Ver) :
    DiskOK (d.map (segMigrate p mv iv)) ∧ absDisk (d.map (segMigrate p mv iv)) = absDisk d := by
  refine diskOK_map _ (fun s _ => segMigrate_shape p mv iv s) (fun sd _ hx => ?_) h
  unfold segMigrate
  split
  · exact hx
  · intro f hf
    rw [← Option.some.inj hf]
    exact derive_itemsFor _ _ _

theorem segRecover_shape (p : Params) (sd : SegDisk) :
    (segRecover p sd).base = sd.base ∧ (segRecover p sd).recs = sd.recs ∧ (segRecover p sd).ver = sd.ver := by
  unfold segRecover
  split
  · exact ⟨rfl, rfl, rfl⟩
  · split <;> exact ⟨rfl, rfl, rfl⟩

theorem mapLast_concat {α : Type} (f : α → α) (pre : List α) (x : α) :
    mapLast f (pre ++ [x]) = pre ++ [f x] := by
  induction pre with
  | nil => rfl
  | cons a as ih =>
    cases as with
    | nil => rfl
    -- `mapLast f (a :: b :: _)` unfolds to `a :: mapLast f (b :: _)`
    | cons b bs => exact congrArg (a :: ·) ih

theorem mapLast_map {α β : Type} (f : α → α) (g : α → β) (hfg : ∀ a, g (f a) = g a) (l : List α) :
    (mapLast f l).map g = l.map g := by
  rcases List.eq_nil_or_concat l with rfl | ⟨pre, x, rfl⟩
  · rfl
  · rw [List.concat_eq_append, mapLast_concat, List.map_append, List.map_append, List.map_singleton,
      List.map_singleton, hfg]

theorem mapLast_length {α : Type} (f : α → α) (l : List α) : (mapLast f l).length = l.length := by
  rw [← List.length_map (f := fun _ => ()), mapLast_map f _ (fun _ => rfl), List.length_map]

theorem mapLast_forall {α : Type} (f : α → α) (Q : α → Prop) (hf : ∀ a, Q a → Q (f a)) (l : List α)
    (hl : ∀ a ∈ l, Q a) : ∀ a ∈ mapLast f l, Q a := by
  rcases List.eq_nil_or_concat l with rfl | ⟨pre, x, rfl⟩
  · exact List.forall_mem_nil _
  · rw [List.concat_eq_append] at hl ⊢
    rw [mapLast_concat]
    intro a ha
    rcases List.mem_append.mp ha with h | h
    · exact hl a (List.mem_append_left _ h)
    · rw [List.mem_singleton.mp h]
      exact hf x (hl x (List.mem_append_right _ (List.mem_singleton.mpr rfl)))

theorem shapeD_recover (p : Params) (d : List SegDisk) :
    shapeD (mapLast (segRecover p) d) = shapeD d :=
  mapLast_map _ _ (fun a => by rw [(segRecover_shape p a).1, (segRecover_shape p a).2.1]) d

theorem segRecover_idx (p : Params) (sd : SegDisk) (f : IdxFile)
    (hf : (segRecover p sd).idxf = some f) :
    ItemsFor (segRecover p sd).ver (segRecover p sd).recs f.items := by
  rw [(segRecover_shape p sd).2.1, (segRecover_shape p sd).2.2]
  unfold segRecover at hf
  cases h0 : sd.idxf with
  | none => simp only [h0] at hf; cases hf
  | some f0 =>
    simp only [h0] at hf
    split at hf
    · next heq =>
      rw [← Option.some.inj (h0.symm.trans hf), eq_of_beq heq]
      exact derive_itemsFor _ _ _
    · rw [← Option.some.inj hf]
      exact derive_itemsFor _ _ _

/-- `Segment.Recover` of the head: the directory is clean afterwards, whatever the head's
index file held before. -/
theorem recover_ok (d : List SegDisk) (hs : ShapeOK (shapeD d))
    (hidx : ∀ sd ∈ d.dropLast, ∀ f, sd.idxf = some f → ItemsFor sd.ver sd.recs f.items)
    (p : Params) :
    DiskOK (mapLast (segRecover p) d) ∧ absDisk (mapLast (segRecover p) d) = absDisk d := by
  have hsh := shapeD_recover p d
  refine ⟨⟨by rw [hsh]; exact hs, ?_⟩, by unfold absDisk; rw [hsh]⟩
  have hne : d ≠ [] := fun he => hs.ne (by rw [he]; rfl)
  rw [← List.dropLast_concat_getLast hne, mapLast_concat]
  intro sd hsd f hf
  rcases List.mem_append.mp hsd with h1 | h1
  · exact hidx sd h1 f hf
  · rw [List.mem_singleton.mp h1] at hf ⊢
    exact segRecover_idx p _ f hf

theorem itemsFor_ver_nil (v v' : Ver) (its : List Item) (h : ItemsFor v [] its) : ItemsFor v' [] its := by
  rw [itemsFor_nil_iff] at h ⊢; exact h

theorem shapeD_ne {d : List SegDisk} (h : DiskOK d) : d ≠ [] := by
  intro he
  have := h.shape.ne
  rw [he] at this
  exact this rfl

/-- The directory as the writer's `Open` sees it: after Recover of the head and eager
migration. -/
def openDir (oo : OpenOpts) (d : List SegDisk) : List SegDisk :=
  let d1 := if oo.recover then mapLast (segRecover oo.opts.params) d else d
  if oo.eager then d1.map (segMigrate oo.opts.params oo.opts.nsv oo.opts.nsv) else d1

theorem openDir_ind (R : List SegDisk → Prop) (oo : OpenOpts) (d : List SegDisk) (h0 : R d)
    (hrec : ∀ d, R d → R (mapLast (segRecover oo.opts.params) d))
    (hmig : ∀ d, R d → R (d.map (segMigrate oo.opts.params oo.opts.nsv oo.opts.nsv))) :
    R (openDir oo d) := by
  unfold openDir
  cases oo.recover <;> cases oo.eager
  · exact h0
  · exact hmig _ h0
  · exact hrec _ h0
  · exact hmig _ (hrec _ h0)

theorem openDir_length (oo : OpenOpts) (d : List SegDisk) : (openDir oo d).length = d.length :=
  openDir_ind (fun d' => d'.length = d.length) oo d rfl (fun _ h => (mapLast_length _ _).trans h)
    (fun _ h => (List.length_map _).trans h)

/-- The log a writer's `Open` builds from the reader files `pre` and the head file `hd`. -/
def openedRW (o : Opts) (pre : List SegDisk) (hd : SegDisk) : Log :=
  ⟨o, pre.map SegDisk.toSeg ++ [(openWriter o hd.toSeg 0).1], (openWriter o hd.toSeg 0).2.1,
    (openWriter o hd.toSeg 0).2.2⟩

/-- Every successful `Open`: a read-only handle takes the directory as it is; a writer opens
the last file of the prepared directory (an empty directory counts as one empty file). -/
theorem open_ok {d : List SegDisk} {oo : OpenOpts} {l' : Log} (h : Log.open d oo = .ok l') :
    (oo.opts.readonly = true ∧
      l' = ⟨oo.opts, if d = [] then [{ emptySeg 0 with mem := some [] }] else d.map SegDisk.toSeg, 0, 0⟩) ∨
    (oo.opts.readonly = false ∧ ∃ pre hd,
      (d = [] ∧ pre = [] ∧ hd = ⟨0, .v1, [], none⟩ ∨ d ≠ [] ∧ openDir oo d = pre ++ [hd]) ∧
      l' = openedRW oo.opts pre hd) := by
  have hd0 : d.getLast? = none → d = [] := List.getLast?_eq_none_iff.mp
  have hd1 : ∀ x, d.getLast? = some x → d ≠ [] := fun x hx => List.ne_nil_of_mem (List.mem_of_getLast? hx)
  cases hro : oo.opts.readonly with
  | true =>
    refine Or.inl ⟨rfl, ?_⟩
    cases hl : d.getLast? with
    | none =>
      simp only [Log.open, hro, ↓reduceIte, hl, Out.ok.injEq] at h
      rw [← h, if_pos (hd0 hl)]
    | some x =>
      simp only [Log.open, hro, ↓reduceIte, hl] at h
      by_cases hc : (oo.check = true ∨ oo.recover = true) ∧ ¬segCheck oo.opts.params x = true
      · rw [if_pos hc] at h
        cases h
      · rw [if_neg hc, Out.ok.injEq] at h
        rw [← h, if_neg (hd1 x hl)]
  | false =>
    refine Or.inr ⟨rfl, ?_⟩
    cases hl : d.getLast? with
    | none =>
      refine ⟨[], ⟨0, .v1, [], none⟩, Or.inl ⟨hd0 hl, rfl, rfl⟩, ?_⟩
      simp only [Log.open, hro, Bool.false_eq_true, ↓reduceIte, hl, Out.ok.injEq] at h
      exact h.symm
    | some x =>
      simp only [Log.open, hro, Bool.false_eq_true, ↓reduceIte, hl] at h
      -- `by_cases` on the test: `split` is slow on this goal
      by_cases hc : ¬oo.recover = true ∧ oo.check = true ∧ ¬segCheck oo.opts.params x = true
      · rw [if_pos hc] at h
        cases h
      · rw [if_neg hc] at h
        change (match (openDir oo d).getLast? with
          | none => Out.err Err.panic
          | some h2 => _) = _ at h
        cases hl2 : (openDir oo d).getLast? with
        | none => rw [hl2] at h; cases h
        | some hd =>
          rw [hl2] at h
          simp only [Out.ok.injEq] at h
          exact ⟨_, hd, Or.inr ⟨hd1 x hl, eq_dropLast_concat hl2⟩, h.symm⟩

/-- Check (without Recover) refuses the head. -/
abbrev Crash.Refused (oo : OpenOpts) (x : SegDisk) : Prop :=
  ¬ oo.recover ∧ oo.check ∧ ¬ segCheck oo.opts.params x

theorem open_rw_ok_iff (pre : List SegDisk) (x : SegDisk) (oo : OpenOpts) (hro : oo.opts.readonly = false) :
    (∃ l', Log.open (pre ++ [x]) oo = .ok l') ↔ ¬ Crash.Refused oo x := by
  unfold Log.open
  simp only [hro, Bool.false_eq_true, ↓reduceIte, List.getLast?_append, List.getLast?_singleton, Option.some_or]
  by_cases hc : Crash.Refused oo x
  · rw [if_pos hc]
    exact ⟨fun ⟨_, h⟩ => (by cases h), fun h => absurd hc h⟩
  · rw [if_neg hc]
    refine ⟨fun _ => hc, fun _ => ?_⟩
    split
    · next hn =>
      -- `hn` speaks of `openDir oo (pre ++ [x])`, unfolded
      have hnil : openDir oo (pre ++ [x]) = [] := List.getLast?_eq_none_iff.mp hn
      have hlen := openDir_length oo (pre ++ [x])
      simp [hnil] at hlen
    · exact ⟨_, rfl⟩

theorem open_nil {oo : OpenOpts} {l0 : Log} (h : Log.open [] oo = .ok l0) :
    l0 = ⟨oo.opts, [if oo.opts.readonly = true then { emptySeg 0 with mem := some [] }
      else freshSeg oo.opts 0], 0, 0⟩ := by
  rcases open_ok h with ⟨hro, rfl⟩ | ⟨hro, pre, hd, hc, rfl⟩
  · rw [if_pos rfl, if_pos hro]
  · rcases hc with ⟨_, rfl, rfl⟩ | ⟨hne, _⟩
    · rw [if_neg (by rw [hro]; exact Bool.false_ne_true)]
      show (⟨_, [(openWriter oo.opts (emptySeg 0) 0).1], (openWriter oo.opts (emptySeg 0) 0).2.1,
        (openWriter oo.opts (emptySeg 0) 0).2.2⟩ : Log) = _
      rw [openWriter_fresh]
    · exact absurd rfl hne

theorem open_time (d : List SegDisk) (oo : OpenOpts) (l' : Log) (h : Log.open d oo = .ok l') :
    l'.wNextTime = 0 ∨
    ∃ sd : SegDisk, (openWriter oo.opts sd.toSeg 0).1 ∈ l'.segs ∧
      l'.wNextTime = (openWriter oo.opts sd.toSeg 0).2.2 := by
  rcases open_ok h with ⟨_, rfl⟩ | ⟨_, pre, h2, _, rfl⟩
  · exact Or.inl rfl
  · exact Or.inr ⟨h2, List.mem_append_right _ (List.mem_singleton.mpr rfl), rfl⟩

theorem openDir_forall (DQ : SegDisk → Prop) (oo : OpenOpts) (d : List SegDisk)
    (hd : ∀ sd ∈ d, DQ sd)
    (hrec : ∀ sd, DQ sd → DQ (segRecover oo.opts.params sd))
    (hmig : ∀ sd, DQ sd → DQ (segMigrate oo.opts.params oo.opts.nsv oo.opts.nsv sd)) :
    ∀ sd ∈ openDir oo d, DQ sd :=
  openDir_ind (fun d => ∀ sd ∈ d, DQ sd) oo d hd (mapLast_forall _ DQ hrec)
    (fun _ hd => List.forall_mem_map.mpr fun sd h => hmig sd (hd sd h))

theorem open_forall (DQ : SegDisk → Prop) (Q : Seg → Prop) (d : List SegDisk) (oo : OpenOpts)
    (l' : Log) (h : Log.open d oo = .ok l') (hne : d ≠ [])
    (hd : ∀ sd ∈ d, DQ sd)
    (hrec : ∀ sd, DQ sd → DQ (segRecover oo.opts.params sd))
    (hmig : ∀ sd, DQ sd → DQ (segMigrate oo.opts.params oo.opts.nsv oo.opts.nsv sd))
    (hseg : ∀ sd, DQ sd → Q sd.toSeg)
    (hopen : ∀ sd, DQ sd → Q (openWriter oo.opts sd.toSeg 0).1) :
    ∀ s' ∈ l'.segs, Q s' := by
  rcases open_ok h with ⟨_, rfl⟩ | ⟨_, pre, h2, hc, rfl⟩
  · rw [if_neg hne]
    intro s' hs'
    obtain ⟨sd, hsd, rfl⟩ := List.mem_map.mp hs'
    exact hseg sd (hd sd hsd)
  · rcases hc with ⟨he, _, _⟩ | ⟨_, hod⟩
    · exact absurd he hne
    · have hall := openDir_forall DQ oo d hd hrec hmig
      rw [hod] at hall
      intro s' hs'
      rcases List.mem_append.mp hs' with h1 | h1
      · obtain ⟨sd, hsd, rfl⟩ := List.mem_map.mp h1
        exact hseg sd (hall sd (List.mem_append_left _ hsd))
      · rw [List.mem_singleton.mp h1]
        exact hopen h2 (hall h2 (List.mem_append_right _ (List.mem_singleton.mpr rfl)))

theorem openDir_ok (d : List SegDisk) (hd : DiskOK d) (oo : OpenOpts) :
    DiskOK (openDir oo d) ∧ absDisk (openDir oo d) = absDisk d :=
  openDir_ind (fun d' => DiskOK d' ∧ absDisk d' = absDisk d) oo d ⟨hd, rfl⟩
    (fun d' h => (recover_ok d' h.1.shape (fun sd hs => h.1.idx sd (List.dropLast_subset _ hs)) _).imp_right
      (·.trans h.2))
    (fun d' h => (migrate_ok d' h.1 _ _ _).imp_right (·.trans h.2))

theorem openedRW_spec (o : Opts) (pre : List SegDisk) (hd : SegDisk) (h : DiskOK (pre ++ [hd])) :
    Inv (openedRW o pre hd) ∧ abs (openedRW o pre hd) = absDisk (pre ++ [hd]) := by
  obtain ⟨hb, hrc, hidxn, hheadn, hnoff⟩ := openWriter_spec o hd.toSeg 0
    (toSeg_idxOK hd (h.idx hd (List.mem_append_right _ (List.mem_singleton.mpr rfl))))
  have hshape : shape (pre.map SegDisk.toSeg) ++
      [((openWriter o hd.toSeg 0).1.base, (openWriter o hd.toSeg 0).1.recs)] = shapeD (pre ++ [hd]) := by
    rw [shape_toSeg, hb, hrc, shapeD, shapeD, List.map_append]; rfl
  refine ⟨inv_snoc (by rw [hshape]; exact h.shape) (fun s hs => ?_) hidxn hheadn (by rw [hb, hrc]; exact hnoff),
    ?_⟩
  · obtain ⟨sd, hsd, rfl⟩ := List.mem_map.mp hs
    exact toSeg_idxOK sd (h.idx sd (List.mem_append_left _ hsd))
  · show absShape (shape (pre.map SegDisk.toSeg ++ [(openWriter o hd.toSeg 0).1])) = absShape _
    rw [shape_append]
    exact congrArg absShape hshape

/-- **Open** on a clean directory, with any options: when it succeeds, the log satisfies the
invariant and has the content of the directory. -/
theorem open_spec (d : List SegDisk) (hd : DiskOK d) (oo : OpenOpts) (l' : Log)
    (h : Log.open d oo = .ok l') : Inv l' ∧ abs l' = absDisk d ∧ l'.opts = oo.opts := by
  have hne := shapeD_ne hd
  rcases open_ok h with ⟨hro, rfl⟩ | ⟨_, pre, h2, hc, rfl⟩
  · -- read-only: one reader per segment, nothing loaded
    rw [if_neg hne]
    refine ⟨⟨by rw [shape_toSeg]; exact hd.shape, ?_, ?_, ?_⟩, by unfold abs absDisk; rw [shape_toSeg], rfl⟩
    · intro s hs
      obtain ⟨sd, hsd, rfl⟩ := List.mem_map.mp hs
      exact toSeg_idxOK sd (hd.idx sd hsd)
    · intro hc; rw [hro] at hc; cases hc
    · intro hc; rw [hro] at hc; cases hc
  · rcases hc with ⟨he, _, _⟩ | ⟨_, hod⟩
    · exact absurd he hne
    · obtain ⟨hok, habs⟩ := openDir_ok d hd oo
      rw [hod] at hok habs
      exact ⟨(openedRW_spec _ pre h2 hok).1, (openedRW_spec _ pre h2 hok).2.trans habs, rfl⟩

theorem open_empty (oo : OpenOpts) :
    ∃ l', Log.open [] oo = .ok l' ∧ Inv l' ∧ abs l' = ⟨[], 0⟩ ∧ l'.opts = oo.opts := by
  have hshape0 : ShapeOK [((0 : Int), ([] : List Msg))] := by
    rw [shapeOK_singleton]
    exact ⟨List.Pairwise.nil, fun m hm => (by cases hm), Int.le_refl 0⟩
  cases hro : oo.opts.readonly with
  | true =>
    refine ⟨⟨oo.opts, [{ emptySeg 0 with mem := some [] }], 0, 0⟩, by simp [Log.open, hro],
      ⟨hshape0, ?_, ?_, ?_⟩, rfl, rfl⟩
    · intro s hs
      rw [List.mem_singleton.mp hs]
      exact ⟨fun its hi => by rw [← Option.some.inj hi]; rfl, fun f hf => by cases hf⟩
    · intro hc; rw [hro] at hc; cases hc
    · intro hc; rw [hro] at hc; cases hc
  | false =>
    have h0 : DiskOK ([] ++ [(⟨0, .v1, [], none⟩ : SegDisk)]) :=
      ⟨hshape0, fun sd hsd f hf => by rw [List.mem_singleton.mp hsd] at hf; cases hf⟩
    exact ⟨openedRW oo.opts [] ⟨0, .v1, [], none⟩, by simp [Log.open, hro, openedRW, SegDisk.toSeg, emptySeg],
      (openedRW_spec _ _ _ h0).1, (openedRW_spec _ _ _ h0).2, rfl⟩

theorem open_nil_spec (oo : OpenOpts) (l0 : Log) (h : Log.open [] oo = .ok l0) :
    Inv l0 ∧ abs l0 = ⟨[], 0⟩ ∧ l0.opts = oo.opts := by
  obtain ⟨l', ho, hinv, habs, hopts⟩ := open_empty oo
  cases h.symm.trans ho
  exact ⟨hinv, habs, hopts⟩

end Klev
