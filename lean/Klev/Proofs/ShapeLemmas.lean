/-
The live messages are the records of the segments in order (`flat`), so a question about them
is a question about the segment an offset belongs to (`SegStart`).
-/
import Klev.Proofs.Reader
import Klev.Proofs.SegSearch
namespace Klev

def flat (sh : Shape) : List Msg := sh.flatMap (·.2)

theorem flat_nil : flat ([] : Shape) = [] := rfl

theorem abs_live (l : Log) : (abs l).live = flat (shape l.segs) := rfl
theorem abs_next (l : Log) : (abs l).next = shapeNext (shape l.segs) := rfl

theorem flat_split (sh : Shape) (i : Nat) (hi : i < sh.length) :
    flat sh = flat (sh.take i) ++ (sh[i]).2 ++ flat (sh.drop (i + 1)) := by
  unfold flat
  calc List.flatMap (fun x => x.2) sh
      = List.flatMap (fun x => x.2) (sh.take i ++ sh.drop i) := by rw [List.take_append_drop]
    _ = List.flatMap (fun x => x.2) (sh.take i) ++ List.flatMap (fun x => x.2) (sh.drop i) :=
        List.flatMap_append
    _ = _ := by rw [List.drop_eq_getElem_cons hi, List.flatMap_cons, List.append_assoc]

theorem seg_sublist_flat (sh : Shape) (i : Nat) (hi : i < sh.length) : (sh[i]).2.Sublist (flat sh) := by
  rw [flat_split sh i hi]
  exact (List.sublist_append_right _ _).trans (List.sublist_append_left _ _)

theorem mem_flat {sh : Shape} {m : Msg} (h : m ∈ flat sh) :
    ∃ j, ∃ hj : j < sh.length, m ∈ (sh[j]).2 := by
  unfold flat at h
  rw [List.mem_flatMap] at h
  obtain ⟨br, hbr, hm⟩ := h
  obtain ⟨j, hj, rfl⟩ := List.getElem_of_mem hbr
  exact ⟨j, hj, hm⟩

theorem bases_eq_shape (l : Log) : bases l = (shape l.segs).map (·.1) := by
  simp [bases, shape, List.map_map, Function.comp_def]

theorem bases_length (l : Log) : (bases l).length = l.segs.length := List.length_map _

theorem bases_ne {l : Log} (hinv : Inv l) : bases l ≠ [] :=
  fun h => hinv.segs_ne (List.map_eq_nil_iff.mp h)

theorem ShapeOK.sortedB {sh : Shape} (h : ShapeOK sh) : SortedB (sh.map (·.1)) := by
  unfold SortedB
  rw [List.pairwise_map]
  exact h.order.imp (fun hab => hab.1)

theorem ShapeOK.base_lt {sh : Shape} (h : ShapeOK sh) {i j : Nat} (hij : i < j) (hj : j < sh.length) :
    (sh[i]'(Nat.lt_trans hij hj)).1 < (sh[j]).1 :=
  (List.pairwise_iff_getElem.mp h.order i j (Nat.lt_trans hij hj) hj hij).1

theorem ShapeOK.rec_lt_base {sh : Shape} (h : ShapeOK sh) {i j : Nat} (hij : i < j) (hj : j < sh.length)
    {m : Msg} (hm : m ∈ (sh[i]'(Nat.lt_trans hij hj)).2) : m.off < (sh[j]).1 :=
  (List.pairwise_iff_getElem.mp h.order i j (Nat.lt_trans hij hj) hj hij).2 m hm

theorem ShapeOK.rec_nonneg {sh : Shape} (h : ShapeOK sh) {m : Msg} (hm : m ∈ flat sh) : 0 ≤ m.off := by
  obtain ⟨j, hj, hmj⟩ := mem_flat hm
  exact Int.le_trans (h.base0 _ (List.getElem_mem hj)) (h.lower _ (List.getElem_mem hj) m hmj)

/-- `i` is where a cursor at `off` starts: everything before segment `i` is below `off`,
every later segment starts above `off`. -/
structure SegStart (sh : Shape) (off : Int) (i : Nat) : Prop where
  lt : i < sh.length
  before : ∀ j, j < i → ∀ hj : j < sh.length, ∀ m ∈ (sh[j]).2, m.off < off
  after : ∀ j, i < j → ∀ hj : j < sh.length, off < (sh[j]).1

theorem SegStart.of_isSegFor {sh : Shape} (h : ShapeOK sh) {off : Int} {i : Nat}
    (hseg : IsSegFor (sh.map (·.1)) off i) : SegStart sh off i := by
  obtain ⟨hi, hle, hafter⟩ := hseg
  have hi' : i < sh.length := by simpa using hi
  refine ⟨hi', ?_, ?_⟩
  · intro j hj hjl m hm
    simp only [List.getElem_map] at hle
    exact Int.lt_of_lt_of_le (h.rec_lt_base hj hi' hm) hle
  · intro j hj hjl
    have := hafter j hj (by simpa using hjl)
    simpa using this

theorem SegStart.first {sh : Shape} (h : ShapeOK sh) {off : Int}
    (hle : ∀ h0 : 0 < sh.length, off ≤ (sh[0]).1) : SegStart sh off 0 := by
  have h0 : 0 < sh.length := List.length_pos_iff.mpr h.ne
  refine ⟨h0, fun j hj => absurd hj (Nat.not_lt_zero j), fun j hj hjl => ?_⟩
  exact Int.lt_of_le_of_lt (hle h0) (h.base_lt hj hjl)

theorem consume_start {sh : Shape} (h : ShapeOK sh) {off : Int} (hn : off ≠ offsetNewest) :
    ∃ i : Nat, SegSearch.consume (sh.map (·.1)) off = .ok (i : Int) ∧ SegStart sh off i := by
  have hpos : 0 < sh.length := List.length_pos_iff.mpr h.ne
  have hbne : sh.map (·.1) ≠ [] := fun e => h.ne (List.map_eq_nil_iff.mp e)
  by_cases hle : off ≤ (sh[0]).1
  · -- at or below the first base (`OffsetOldest` is): the first segment
    exact ⟨0, SegSearch.consume_first _ _ hbne (Or.inr ⟨hn, fun _ => by simpa using hle⟩),
      SegStart.first h fun _ => hle⟩
  · have ho : off ≠ offsetOldest := by
      have := h.base0 _ (List.getElem_mem hpos)
      intro e
      rw [e, offsetOldest] at hle
      exact hle (Int.le_trans (by decide : (-2 : Int) ≤ 0) this)
    obtain ⟨i, hsearch, hseg⟩ := SegSearch.consume_spec (sh.map (·.1)) off h.sortedB hbne ho hn
      (fun _ => by simpa using Int.not_le.mp hle)
    exact ⟨i, hsearch, SegStart.of_isSegFor h hseg⟩

theorem SegStart.below {sh : Shape} {off : Int} {i : Nat} (hs : SegStart sh off i) :
    ∀ m ∈ flat (sh.take i), m.off < off := by
  intro m hm
  obtain ⟨j, hj, hmj⟩ := mem_flat hm
  simp only [List.length_take] at hj
  simp only [List.getElem_take] at hmj
  exact hs.before j (Nat.lt_of_lt_of_le hj (Nat.min_le_left _ _))
    (Nat.lt_of_lt_of_le hj (Nat.min_le_right _ _)) m hmj

theorem SegStart.above {sh : Shape} (h : ShapeOK sh) {off : Int} {i : Nat}
    (hs : SegStart sh off i) : ∀ m ∈ flat (sh.drop (i + 1)), off < m.off := by
  intro m hm
  obtain ⟨j, hj, hmj⟩ := mem_flat hm
  simp only [List.length_drop] at hj
  simp only [List.getElem_drop] at hmj
  have hj' : i + 1 + j < sh.length := Nat.add_lt_of_lt_sub' hj
  have hij : i < i + 1 + j := Nat.lt_add_right j (Nat.lt_succ_self i)
  exact Int.lt_of_lt_of_le (hs.after (i + 1 + j) hij hj')
    (h.lower _ (List.getElem_mem hj') m hmj)

theorem fromOff_split {sh : Shape} (h : ShapeOK sh) {off : Int} {i : Nat} (hs : SegStart sh off i) :
    Spec.fromOff (absShape sh) off = segFrom (sh[i]'hs.lt).2 off ++ flat (sh.drop (i + 1)) := by
  have h1 : (flat (sh.take i)).filter (fun m => decide (off ≤ m.off)) = [] :=
    List.filter_eq_nil_iff.mpr fun m hm => by
      simp only [decide_eq_true_eq]; exact Int.not_le.mpr (hs.below m hm)
  have h2 : (flat (sh.drop (i + 1))).filter (fun m => decide (off ≤ m.off)) =
      flat (sh.drop (i + 1)) :=
    List.filter_eq_self.mpr fun m hm => by
      simp only [decide_eq_true_eq]; exact Int.le_of_lt (hs.above h m hm)
  show (flat sh).filter _ = _
  rw [flat_split sh i hs.lt, List.filter_append, List.filter_append, h1, h2]
  rfl

theorem find_flat {sh : Shape} (h : ShapeOK sh) {off : Int} {i : Nat} (hs : SegStart sh off i) :
    (flat sh).find? (fun x => decide (x.off = off)) =
      ((sh[i]'hs.lt).2).find? (fun x => decide (x.off = off)) := by
  have h1 : (flat (sh.take i)).find? (fun x => decide (x.off = off)) = none :=
    List.find?_eq_none.mpr fun m hm => by
      simp only [decide_eq_true_eq]; exact Int.ne_of_lt (hs.below m hm)
  have h2 : (flat (sh.drop (i + 1))).find? (fun x => decide (x.off = off)) = none :=
    List.find?_eq_none.mpr fun m hm => by
      simp only [decide_eq_true_eq]; exact Int.ne_of_gt (hs.above h m hm)
  rw [flat_split sh i hs.lt, List.find?_append, List.find?_append, h1, h2]
  simp

theorem recsNext_ge (base : Int) (recs : List Msg) (hl : ∀ m ∈ recs, base ≤ m.off) :
    base ≤ recsNext base recs := by
  unfold recsNext
  cases h : recs.getLast? with
  | none => simp
  | some lm =>
    simp only
    have := hl lm (List.mem_of_getLast? h)
    omega

theorem recsNext_gt (base : Int) (recs : List Msg) (hs : recs.Pairwise (fun a b => a.off < b.off)) :
    ∀ m ∈ recs, m.off < recsNext base recs := by
  intro m hm
  obtain ⟨la, hla⟩ : ∃ la, recs.getLast? = some la :=
    ⟨_, List.getLast?_eq_some_getLast (List.ne_nil_of_mem hm)⟩
  unfold recsNext
  rw [hla]
  exact Int.lt_add_one_of_le (pairwise_le_getLast (key := Msg.off) (hs.imp Int.le_of_lt) hla m hm)

theorem ShapeOK.lt_next {sh : Shape} (h : ShapeOK sh) {m : Msg} (hm : m ∈ flat sh) :
    m.off < shapeNext sh := by
  have hpos := List.length_pos_iff.mpr h.ne
  obtain ⟨j, hj, hmj⟩ := mem_flat hm
  have hlast : sh.length - 1 < sh.length := Nat.sub_lt hpos Nat.one_pos
  rw [shapeNext_last sh h.ne]
  by_cases hc : j = sh.length - 1
  · subst hc
    exact recsNext_gt _ _ (h.sorted _ (List.getElem_mem hlast)) m hmj
  · have hjl : j < sh.length - 1 := Nat.lt_of_le_of_ne (Nat.le_sub_one_of_lt hj) hc
    exact Int.lt_of_lt_of_le (h.rec_lt_base hjl hlast hmj)
      (recsNext_ge _ _ (h.lower _ (List.getElem_mem hlast)))

theorem ShapeOK.base_le_next {sh : Shape} (h : ShapeOK sh) (j : Nat) (hj : j < sh.length) :
    (sh[j]).1 ≤ shapeNext sh := by
  rw [shapeNext_last sh h.ne]
  have hlast : sh.length - 1 < sh.length := Nat.sub_lt (Nat.zero_lt_of_lt hj) Nat.one_pos
  have h1 := recsNext_ge _ _ (h.lower _ (List.getElem_mem hlast))
  by_cases hc : j = sh.length - 1
  · subst hc; exact h1
  · have hjl : j < sh.length - 1 := Nat.lt_of_le_of_ne (Nat.le_sub_one_of_lt hj) hc
    exact Int.le_trans (Int.le_of_lt (h.base_lt hjl hlast)) h1

theorem ShapeOK.next_nonneg {sh : Shape} (h : ShapeOK sh) : 0 ≤ shapeNext sh := by
  have hpos := List.length_pos_iff.mpr h.ne
  exact Int.le_trans (h.base0 _ (List.getElem_mem hpos)) (h.base_le_next 0 hpos)

theorem segFrom_oldest {recs : List Msg} (h : ∀ m ∈ recs, 0 ≤ m.off) :
    segFrom recs offsetOldest = recs := by
  unfold segFrom
  rw [List.filter_eq_self]
  intro m hm
  exact decide_eq_true (Int.le_trans (by decide : offsetOldest ≤ 0) (h m hm))

theorem flat_drop_cons (sh : Shape) (j : Nat) (hj : j < sh.length) :
    flat (sh.drop j) = (sh[j]).2 ++ flat (sh.drop (j + 1)) := by
  unfold flat
  rw [List.drop_eq_getElem_cons hj, List.flatMap_cons]

theorem flat_drop_len (sh : Shape) (j : Nat) (hj : sh.length ≤ j) : flat (sh.drop j) = [] := by
  unfold flat
  rw [List.drop_eq_nil_of_le hj]; rfl

theorem flat_take_succ (sh : Shape) (i : Nat) (hi : i < sh.length) :
    flat (sh.take (i + 1)) = flat (sh.take i) ++ (sh[i]).2 := by
  unfold flat
  rw [List.take_succ_eq_append_getElem hi, List.flatMap_append]
  simp

theorem ShapeOK.head?_flat_drop {sh : Shape} (h : ShapeOK sh) (j : Nat) (hj : j < sh.length) :
    (flat (sh.drop j)).head? = ((sh[j]).2).head? := by
  rw [flat_drop_cons sh j hj, List.head?_append]
  cases hh : ((sh[j]).2).head? with
  | some f => rfl
  | none =>
    -- only the head may be empty
    have hlen : ¬ j + 1 < sh.length := fun h1 =>
      h.nonempty_idx j h1 (List.head?_eq_none_iff.mp hh)
    rw [flat_drop_len _ _ (Nat.not_lt.mp hlen)]; rfl

theorem ShapeOK.head?_flat {sh : Shape} (h : ShapeOK sh) :
    (flat sh).head? = ((sh[0]'(List.length_pos_iff.mpr h.ne)).2).head? := by
  have := h.head?_flat_drop 0 (List.length_pos_iff.mpr h.ne)
  rwa [List.drop_zero] at this

theorem ShapeOK.getLast?_flat_take {sh : Shape} (h : ShapeOK sh) (j : Nat) (hj : j + 1 < sh.length) :
    (flat (sh.take (j + 1))).getLast? = ((sh[j]'(Nat.lt_of_succ_lt hj)).2).getLast? := by
  rw [flat_take_succ sh j (Nat.lt_of_succ_lt hj), List.getLast?_append]
  cases hh : ((sh[j]'(Nat.lt_of_succ_lt hj)).2).getLast? with
  | some la => rfl
  | none => exact absurd (List.getLast?_eq_none_iff.mp hh) (h.nonempty_idx j hj)

theorem flat_take_last (sh : Shape) (hne : sh ≠ []) :
    flat sh = flat (sh.take (sh.length - 1)) ++
      (sh[sh.length - 1]'(Nat.sub_lt (List.length_pos_iff.mpr hne) Nat.one_pos)).2 := by
  have hpos := List.length_pos_iff.mpr hne
  rw [flat_split sh (sh.length - 1) (Nat.sub_lt hpos Nat.one_pos),
    flat_drop_len _ _ (by omega), List.append_nil]

theorem SegStart.lt_next_iff {sh : Shape} (h : ShapeOK sh) {off : Int} {i : Nat}
    (hs : SegStart sh off i) (hb : (sh[i]'hs.lt).1 ≤ off) :
    off < shapeNext sh ↔ i + 1 < sh.length ∨ ∃ m ∈ (sh[i]'hs.lt).2, off ≤ m.off := by
  constructor
  · intro hlt
    by_cases hl : i + 1 < sh.length
    · exact Or.inl hl
    · right
      have hle : sh.length ≤ i + 1 := Nat.not_lt.mp hl
      have hil : sh.length - 1 = i := Nat.sub_eq_of_eq_add (Nat.le_antisymm hle hs.lt)
      rw [shapeNext_last sh h.ne] at hlt
      simp only [hil] at hlt
      unfold recsNext at hlt
      cases hla : ((sh[i]'hs.lt).2).getLast? with
      | none => rw [hla] at hlt; simp only at hlt; exact absurd hlt (Int.not_lt.mpr hb)
      | some la =>
        rw [hla] at hlt
        simp only at hlt
        exact ⟨la, List.mem_of_getLast? hla, Int.le_of_lt_add_one hlt⟩
  · rintro (hl | ⟨m, hm, hle⟩)
    · exact Int.lt_of_lt_of_le (hs.after (i + 1) (Nat.lt_succ_self i) hl)
        (h.base_le_next (i + 1) hl)
    · exact Int.lt_of_le_of_lt hle (h.lt_next ((seg_sublist_flat sh i hs.lt).subset hm))

theorem SegRead.mem_flat {sh : Shape} {i : Nat} {s : Seg} {its : List Item} {c : RCtx}
    (h : SegRead sh i s its c) {m : Msg} (hm : m ∈ s.recs) : m ∈ flat sh :=
  (seg_sublist_flat sh i h.lt).subset (h.recs ▸ hm)

theorem segs_length_succ {l : Log} (hinv : Inv l) : ∃ n, l.segs.length = n + 1 :=
  Nat.exists_eq_add_one_of_ne_zero (mt List.length_eq_zero_iff.mp hinv.segs_ne)

theorem consume_newest_seg {l : Log} (hinv : Inv l) {n : Nat} (hn : l.segs.length = n + 1) :
    SegSearch.consume (bases l) offsetNewest = .ok (n : Int) := by
  rw [SegSearch.consume_newest _ (bases_ne hinv), bases_length, hn, Int.natCast_succ,
    Int.add_sub_cancel]

theorem get_newest_seg {l : Log} (hinv : Inv l) {n : Nat} (hn : l.segs.length = n + 1) :
    SegSearch.get (bases l) offsetNewest = .ok (.ok (n : Int)) := by
  rw [SegSearch.get_newest _ (bases_ne hinv), bases_length, hn, Int.natCast_succ,
    Int.add_sub_cancel]

end Klev
