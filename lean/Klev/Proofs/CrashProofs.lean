/-
Crash points of Publish and Delete (C05): every directory a crash may leave after a prefix
of the file-system program of a non-rebasing operation is recovered by Open(Recover) to a
log that satisfies the invariant and whose content is allowed by `CrashOK`; the programs
end exactly where the model's operation ends; the rebasing delete is a proved counterexample.
-/
import Klev.Proofs.CrashCore
namespace Klev.Crash
open Klev

def CrashOK (l : Log) : COp → Spec → Prop
  | .publish b, s => ∃ j, j ≤ b.length ∧ s.live = (abs l).live ++ (Spec.stampSpec (abs l).next b).take j ∧ s.next = (abs l).next + j
  | .delete o, s => s = abs l ∨ s = abs (l.delete o).1

/-- The rewritten segment as it lies on disk once both files are renamed in. -/
def rsD (p : Params) (rw : Rewrite) : SegDisk :=
  ⟨minOff (rw.survive.map (·.off)), rw.ver, rw.survive, some ⟨rw.iver, derive p rw.ver rw.survive⟩⟩

theorem rsD_eq (p : Params) (rw : Rewrite) : rsD p rw = (rewrittenSeg p rw).toDisk := rfl

def fin (p : Params) (rw : Rewrite) : List SegDisk := if rw.survive.isEmpty then [] else [rsD p rw]

/-- Where the rewritten segment lands is read off the shape after the swap. -/
theorem swap_final (p : Params) (rw : Rewrite) (PRE POST : List SegDisk) (x : SegDisk)
    (hok : ShapeOK (shapeD (PRE ++ x :: POST))) (hsub : rw.survive.Sublist x.recs)
    (hres : rw.survive.isEmpty = false → ShapeOK (shapeD (PRE ++ rsD p rw :: POST))) :
    applySteps (PRE ++ x :: POST) (swapProg p x.base rw) = PRE ++ (fin p rw ++ POST) := by
  obtain ⟨hpre, hpost⟩ := split_order _ _ _ hok
  have hpre' : ∀ s ∈ PRE, s.base ≠ x.base := fun s hs => Int.ne_of_lt (hpre s hs)
  have hpost' : ∀ s ∈ POST, s.base ≠ x.base := fun s hs => Int.ne_of_gt (hpost s hs)
  unfold swapProg fin
  cases hE : rw.survive.isEmpty with
  | true => exact drop_final PRE POST x hpre' hpost'
  | false =>
    simp only [Bool.false_eq_true, if_false]
    by_cases hb : minOff (rw.survive.map (·.off)) = x.base
    · rw [if_pos hb, bracket_final PRE POST x _ _ _ hpre' hpost']
      simp only [rsD, hb, List.singleton_append]
    · have hxmem : (x.base, x.recs) ∈ shapeD (PRE ++ x :: POST) := List.mem_map.mpr ⟨x, List.mem_append_right _ List.mem_cons_self, rfl⟩
      have hle := (segShapeOK_rewritten ⟨hok.sorted _ hxmem, hok.lower _ hxmem, hok.base0 _ hxmem⟩ hsub
        (List.isEmpty_eq_false_iff.mp hE)).2.1
      rw [if_neg hb]
      exact move_final PRE POST x _ _ _ _ hpre (Int.lt_iff_le_and_ne.mpr ⟨hle, Ne.symm hb⟩) (split_order _ _ _ (hres hE)).2

theorem swap_states (p : Params) (b : Int) (rw : Rewrite) (d : List SegDisk)
    (hnr : rw.survive.isEmpty = true ∨ minOff (rw.survive.map (·.off)) = b) (k : Nat) :
    applySteps d ((swapProg p b rw).take k) = d ∨
    applySteps d ((swapProg p b rw).take k) = rmIdx b d ∨
    applySteps d ((swapProg p b rw).take k) = rmIdx b (applySteps d (swapProg p b rw)) ∨
    applySteps d ((swapProg p b rw).take k) = applySteps d (swapProg p b rw) := by
  unfold swapProg
  cases hE : rw.survive.isEmpty with
  | true =>
    rw [if_pos rfl]
    rcases k with _ | _ | k
    · exact Or.inl rfl
    · exact Or.inr (Or.inl rfl)
    · exact Or.inr (Or.inr (Or.inr (by rw [List.take_of_length_le (by simp)])))
  | false =>
    have hb : minOff (rw.survive.map (·.off)) = b := hnr.resolve_left (by rw [hE]; simp)
    simp only [Bool.false_eq_true, if_false, hb, if_true]
    exact bracket_states b _ _ _ d k

theorem openWriter_rewritten_disk (o : Opts) (rw : Rewrite) (nt : Int) (hne : rw.survive ≠ []) :
    (openWriter o (rewrittenSeg o.params rw) nt).1.toDisk = rsD o.params rw := by
  obtain ⟨v, its, f, heq, h⟩ := openWriter_out o (rewrittenSeg o.params rw) nt
  rw [heq]
  rcases h with ⟨he, _⟩ | ⟨_, hv, _, ⟨hf, _⟩ | ⟨hre, _⟩⟩
  · exact absurd he hne
  · rw [hv, ← Option.some.inj hf]
    rfl
  · -- the index file of a rewritten segment has items: nothing is rebuilt
    have hd : derive o.params rw.ver rw.survive ≠ [] := fun he =>
      hne (List.eq_nil_of_length_eq_zero (by rw [← derive_length o.params rw.ver, he]; rfl))
    simp [needsReindex, rewrittenSeg, hd] at hre

theorem disk_split (l : Log) (i : Nat) (hi : i < l.segs.length) :
    l.disk = (l.segs.take i).map Seg.toDisk ++ (l.segs[i]).toDisk :: (l.segs.drop (i + 1)).map Seg.toDisk := by
  have h : l.segs = l.segs.take i ++ l.segs[i] :: l.segs.drop (i + 1) := by
    rw [← List.drop_eq_getElem_cons hi, List.take_append_drop]
  unfold Log.disk
  conv => lhs; rw [h]
  rw [List.map_append, List.map_cons]

theorem disk_replaceAt (segs : List Seg) (i : Nat) (new : List Seg) :
    (replaceAt segs i new).map Seg.toDisk =
      (segs.take i).map Seg.toDisk ++ (new.map Seg.toDisk ++ (segs.drop (i + 1)).map Seg.toDisk) := by
  unfold replaceAt; simp

theorem isEmpty_false_of_ne {α : Type} {l : List α} (h : l ≠ []) : l.isEmpty = false :=
  List.isEmpty_eq_false_iff.mpr h

theorem swapped_disk (l : Log) (i : Nat) (rw : Rewrite) (reopen fresh : Bool) :
    (swapped l i rw reopen fresh).disk = (l.segs.take i).map Seg.toDisk ++
      ((fin l.opts.params rw ++ if fresh then [nhD l] else []) ++
        (l.segs.drop (i + 1)).map Seg.toDisk) := by
  unfold swapped Log.disk
  rw [disk_replaceAt]
  congr 2
  unfold swapSegs fin
  rw [List.map_append]
  congr 1
  · by_cases he : rw.survive = []
    · rw [if_pos he, if_pos (by rw [he]; rfl)]
      rfl
    · rw [if_neg he, if_neg (mt List.isEmpty_iff.mp he)]
      cases reopen with
      | true => exact congrArg (· :: []) (openWriter_rewritten_disk _ _ _ he)
      | false => rfl
  · cases fresh <;> rfl

theorem delete_disk (l : Log) (hrw : l.opts.readonly = false) (offs : List Int) :
    (deleteProg l offs = [] ∧ (l.delete offs).1 = l) ∨
    ∃ (PRE : List SegDisk) (x : SegDisk) (POST0 : List SegDisk) (rw : Rewrite) (nh : Bool),
      l.disk = PRE ++ x :: POST0 ∧
      deleteProg l offs =
        (if nh then newHead l.wNextOff l.opts.nsv else []) ++ swapProg l.opts.params x.base rw ∧
      (l.delete offs).1.disk = PRE ++ (fin l.opts.params rw ++ (POST0 ++ if nh then [nhD l] else [])) ∧
      (nh = true → POST0 = []) ∧ x.recs ≠ [] ∧ rw.survive.Sublist x.recs ∧
      rw.ver = (if l.opts.keep then x.ver else l.opts.nsv) ∧ rw.iver = rw.ver := by
  -- the program is named first, so that its branches are walked in a hypothesis, next to `delete_out`
  generalize hP : deleteProg l offs = P
  unfold deleteProg at hP
  rcases delete_out l offs with ⟨hro, _⟩ | ⟨_, ⟨he, h⟩ | ⟨he, ⟨e, ht, h⟩ | ⟨i, ht, ⟨hs, h⟩ | ⟨s, mv, hs, rfl, h⟩⟩⟩⟩
  · rw [hrw] at hro; cases hro
  · exact Or.inl ⟨by simpa [he] using hP.symm, by rw [h]⟩
  · exact Or.inl ⟨by simpa [ht] using hP.symm, by rw [h]⟩
  · exact Or.inl ⟨by simpa [ht, hs] using hP.symm, by rw [h]⟩
  obtain ⟨hi, rfl⟩ := List.getElem?_eq_some_iff.mp hs
  simp only [hrw, List.isEmpty_eq_false_iff.mpr he, ht, hs, Bool.false_eq_true, or_self, if_false] at hP
  generalize hrwe : rewrite l.opts.params l.segs[i] offs _ _ = rw at h hP
  by_cases hde : rw.deleted.isEmpty = true
  · rw [if_pos hde] at h hP
    exact Or.inl ⟨hP.symm, by rw [h]⟩
  rw [if_neg hde] at h hP
  right
  have hrne : (l.segs[i]).recs ≠ [] := fun he' => hde (by rw [← hrwe, rewrite, he']; rfl)
  have hsub : rw.survive.Sublist (l.segs[i]).recs := hrwe ▸ List.filter_sublist
  have hver : rw.ver = (if l.opts.keep then (l.segs[i]).ver else l.opts.nsv) ∧ rw.iver = rw.ver := by
    rw [← hrwe]; exact ⟨rfl, rfl⟩
  have hsplit := disk_split l i hi
  by_cases hlast : (i + 1 == l.segs.length) = true
  · rw [if_pos hlast] at h hP
    have hlen : i + 1 = l.segs.length := eq_of_beq hlast
    rw [List.drop_eq_nil_of_le (Nat.le_of_eq hlen.symm)] at hsplit
    refine ⟨(l.segs.take i).map Seg.toDisk, (l.segs[i]).toDisk, [], rw,
      decide (rw.survive.isEmpty ∨ tailDeleted (l.segs[i]) rw), hsplit, ?_, ?_, fun _ => rfl, hrne, hsub, hver⟩
    · rw [← hP]
      simp only [decide_eq_true_eq]
      rfl
    · rw [h, swapHead_eq, swapped_disk, List.drop_eq_nil_of_le (Nat.le_of_eq hlen.symm)]
      simp only [Bool.or_eq_true, decide_eq_true_eq, List.map_nil, List.append_nil, List.nil_append]
  · rw [if_neg hlast] at h hP
    exact ⟨(l.segs.take i).map Seg.toDisk, (l.segs[i]).toDisk, (l.segs.drop (i + 1)).map Seg.toDisk, rw, false,
      hsplit, hP.symm, by rw [h, swapReader_eq, swapped_disk]; simp, (fun h => nomatch h), hrne, hsub, hver⟩

theorem exact_rsD (p : Params) (rw : Rewrite) : Exact (rsD p rw) := by
  intro f hf
  simp only [rsD, Option.some.injEq] at hf
  subst hf
  exact derive_itemsFor _ _ _

theorem swap_not_rebasing (p : Params) (b : Int) (rw : Rewrite)
    (h : (swapProg p b rw).any (fun st => match st with | .addSeg _ _ _ => true | _ => false) = false) :
    rw.survive.isEmpty = true ∨ minOff (rw.survive.map (·.off)) = b := by
  cases hE : rw.survive.isEmpty with
  | true => exact Or.inl rfl
  | false =>
    refine Or.inr (Classical.byContradiction fun hb => ?_)
    simp only [swapProg, hE, hb, Bool.false_eq_true, if_false] at h
    -- the program now starts with an `addSeg`: `h` evaluates to `true = false`
    cases h

/-- An optional new head behind a head that has records: the rollover of Publish, and the
tail delete. -/
theorem newHead_ok (l : Log) (hinv : Inv l) (hrw : l.opts.readonly = false) (nh : Bool)
    (hnh : nh = true → ∃ PRE x, l.disk = PRE ++ [x] ∧ x.recs ≠ []) :
    applySteps l.disk (if nh then newHead l.wNextOff l.opts.nsv else []) =
      l.disk ++ (if nh then [nhD l] else []) ∧
    ∀ k, DiskOK (applySteps l.disk ((if nh then newHead l.wNextOff l.opts.nsv else []).take k)) ∧
      absDisk (applySteps l.disk ((if nh then newHead l.wNextOff l.opts.nsv else []).take k)) = abs l := by
  obtain ⟨hdok, hdabs⟩ := disk_of_inv l hinv
  cases nh with
  | false =>
    simp only [Bool.false_eq_true, if_false, List.take_nil, List.append_nil]
    exact ⟨rfl, fun _ => ⟨hdok, hdabs⟩⟩
  | true =>
    simp only [if_true]
    obtain ⟨PRE, x, hd, hrne⟩ := hnh rfl
    -- any empty segment named after the next offset may stand behind the head
    have key : ∀ y : SegDisk, y.base = l.wNextOff → y.recs = [] → Exact y →
        DiskOK (l.disk ++ [y]) ∧ absDisk (l.disk ++ [y]) = abs l := by
      intro y hyb hyr hy
      obtain ⟨hs, ha, _⟩ := nh_shape l hinv hrw PRE x hd hrne y hyb hyr
      refine ⟨⟨hs, fun sd hsd => ?_⟩, ha⟩
      rcases List.mem_append.mp hsd with h | h
      · exact hdok.idx sd h
      · rw [List.mem_singleton.mp h]; exact hy
    have hlt := (nh_shape l hinv hrw PRE x hd hrne (nhD l) rfl rfl).2.2
    refine ⟨newHead_final _ _ _ hlt, fun k => ?_⟩
    rcases newHead_states l.disk l.wNextOff l.opts.nsv hlt k with h | h | h <;> rw [h]
    · exact ⟨hdok, hdabs⟩
    · exact key _ rfl rfl (fun f hf => by cases hf)
    · exact key _ rfl rfl (fun f hf => by cases hf; rfl)

theorem delete_final (l : Log) (hinv : Inv l) (hrw : l.opts.readonly = false) (offs : List Int) :
    applySteps l.disk (deleteProg l offs) = (l.delete offs).1.disk := by
  rcases delete_disk l hrw offs with ⟨hp, hl⟩ | ⟨PRE, x, POST0, rw, nh, hd, hprog, hres, hnh, hrne, hsub, _, _⟩
  · rw [hp, hl]; rfl
  obtain ⟨h1, hst⟩ := newHead_ok l hinv hrw nh (fun h => ⟨PRE, x, by rw [hd, hnh h], hrne⟩)
  have hok := (hst (if nh then newHead l.wNextOff l.opts.nsv else []).length).1.shape
  have hrok := (delete_step l hinv offs).1.shape
  rw [List.take_of_length_le (Nat.le_refl _), h1, hd, List.append_assoc, List.cons_append] at hok
  rw [← shapeD_disk, hres] at hrok
  rw [hprog, applySteps_append, h1, hd, hres, List.append_assoc, List.cons_append]
  refine swap_final _ rw PRE _ x hok hsub (fun hE => ?_)
  rwa [fin, hE, if_neg Bool.false_ne_true, List.singleton_append] at hrok

theorem delete_crash_disk (l : Log) (hinv : Inv l) (hrw : l.opts.readonly = false) (offs : List Int)
    (hnr : rebasing l offs = false) (k : Nat) :
    DiskOK (crashState l (.delete offs) k) ∧
    (absDisk (crashState l (.delete offs) k) = abs l ∨
     absDisk (crashState l (.delete offs) k) = abs (l.delete offs).1) := by
  have hfin := delete_final l hinv hrw offs
  obtain ⟨hrok, hrabs⟩ := disk_of_inv _ (delete_step l hinv offs).1
  unfold crashState prog
  dsimp only
  rcases delete_disk l hrw offs with ⟨hp, hl⟩ | ⟨PRE, x, POST0, rw, nh, hd, hprog, hres, hnh, hrne, hsub, _, _⟩
  · rw [hp, List.take_nil]
    exact ⟨(disk_of_inv l hinv).1, Or.inl (disk_of_inv l hinv).2⟩
  obtain ⟨_, hst⟩ := newHead_ok l hinv hrw nh (fun h => ⟨PRE, x, by rw [hd, hnh h], hrne⟩)
  have hnr' := swap_not_rebasing l.opts.params x.base rw (by
    rw [rebasing, hprog, List.any_append, Bool.or_eq_false_iff] at hnr
    exact hnr.2)
  rw [hprog] at hfin ⊢
  rw [applySteps_append] at hfin
  rcases crash_append l.disk (if nh then newHead l.wNextOff l.opts.nsv else [])
    (swapProg l.opts.params x.base rw) k with ⟨k', hk⟩ | ⟨k', hk⟩ <;> rw [hk]
  · exact ⟨(hst k').1, Or.inl (hst k').2⟩
  · -- inside the swap: the directory before or after it, possibly without one index file
    have h1 := hst (if nh then newHead l.wNextOff l.opts.nsv else []).length
    rw [List.take_of_length_le (Nat.le_refl _)] at h1
    rw [← hfin] at hrok hrabs
    rcases swap_states l.opts.params x.base rw _ hnr' k' with h | h | h | h <;> rw [h]
    · exact ⟨h1.1, Or.inl h1.2⟩
    · exact ⟨(rmIdx_ok _ _ h1.1).1, Or.inl ((rmIdx_ok _ _ h1.1).2.trans h1.2)⟩
    · exact ⟨(rmIdx_ok _ _ hrok).1, Or.inr ((rmIdx_ok _ _ hrok).2.trans hrabs)⟩
    · exact ⟨hrok, Or.inr hrabs⟩

theorem interleave_cons (m : Msg) (ms : List Msg) (it : Item) (its : List Item) :
    interleave (m :: ms) (it :: its) = .appendRec m :: .appendItem it :: interleave ms its := rfl

/-- A prefix of the interleaved appends leaves a prefix of the records in the head; what
the head's index file holds at that point does not matter. -/
theorem interleave_take : ∀ (ms : List Msg) (its : List Item) (k : Nat) (pre : List SegDisk) (h : SegDisk),
    ∃ j, j ≤ ms.length ∧ ∃ f', applySteps (pre ++ [h]) ((interleave ms its).take k) =
      pre ++ [⟨h.base, h.ver, h.recs ++ ms.take j, f'⟩] := by
  intro ms
  induction ms with
  | nil =>
    intro its k pre h
    refine ⟨0, Nat.le_refl _, h.idxf, ?_⟩
    simp [interleave, applySteps]
  | cons m ms ih =>
    intro its k pre h
    cases its with
    | nil =>
      refine ⟨0, Nat.zero_le _, h.idxf, ?_⟩
      simp [interleave, applySteps]
    | cons it its =>
      rcases k with _ | _ | k
      · refine ⟨0, Nat.zero_le _, h.idxf, ?_⟩
        simp [applySteps]
      · refine ⟨1, by simp, h.idxf, ?_⟩
        simp only [interleave_cons, List.take, applySteps, List.foldl, applyStep, onLast]
        rw [mapLast_concat]
      · obtain ⟨j, hj, f', hst⟩ := ih its k pre
          ⟨h.base, h.ver, h.recs ++ [m], h.idxf.map (fun f => { f with items := f.items ++ [it] })⟩
        refine ⟨j + 1, Nat.succ_le_succ hj, f', ?_⟩
        simp only [interleave_cons, List.take, applySteps_cons, applyStep, onLast]
        rw [mapLast_concat, mapLast_concat, hst]
        simp

theorem interleave_full : ∀ (ms : List Msg) (its : List Item) (pre : List SegDisk) (h : SegDisk),
    ms.length = its.length →
    applySteps (pre ++ [h]) (interleave ms its) =
      pre ++ [⟨h.base, h.ver, h.recs ++ ms, h.idxf.map (fun f => { f with items := f.items ++ its })⟩] := by
  intro ms
  induction ms with
  | nil =>
    intro its pre h hlen
    cases its with
    | nil =>
      simp only [interleave, applySteps_nil, List.append_nil]
      obtain ⟨hb, hv, hr, hi⟩ := h
      cases hi <;> simp
    | cons it its => simp at hlen
  | cons m ms ih =>
    intro its pre h hlen
    cases its with
    | nil => simp at hlen
    | cons it its =>
      simp only [interleave_cons, applySteps_cons, applyStep, onLast]
      rw [mapLast_concat, mapLast_concat, ih its pre _ (Nat.succ.inj hlen)]
      obtain ⟨hb, hv, hr, hi⟩ := h
      cases hi <;> simp

theorem stampSpec_take : ∀ (batch : List (Int × List UInt8 × List UInt8)) (off : Int) (j : Nat),
    (Spec.stampSpec off batch).take j = Spec.stampSpec off (batch.take j) := by
  intro batch
  induction batch with
  | nil => intro off j; simp [Spec.stampSpec]
  | cons b rest ih =>
    intro off j
    obtain ⟨t, k, vl⟩ := b
    cases j with
    | zero => simp [Spec.stampSpec]
    | succ j => simp [Spec.stampSpec, ih]

theorem publishProg_eq {l : Log} {h h1 : Seg} (hl : l.segs.getLast? = some h)
    (hl1 : l.rollover.segs.getLast? = some h1) (b : List (Int × List UInt8 × List UInt8)) :
    publishProg l b = (if needsRollover l.opts h then newHead l.wNextOff l.opts.nsv else []) ++
      interleave
        (stamp l.opts.params h1.ver l.rollover.wNextOff (logSize h1.ver h1.recs) l.rollover.wNextTime b).1
        (stamp l.opts.params h1.ver l.rollover.wNextOff (logSize h1.ver h1.recs) l.rollover.wNextTime b).2 := by
  unfold publishProg
  rw [hl]
  dsimp only
  rw [hl1]

theorem publish_final (l : Log) (hinv : Inv l) (hrw : l.opts.readonly = false)
    (b : List (Int × List UInt8 × List UInt8)) :
    applySteps l.disk (publishProg l b) = (l.publish b).1.disk := by
  obtain ⟨h, hl⟩ := inv_getLast l hinv
  obtain ⟨hinv1, _, hopts⟩ := rollover_spec l hinv hrw
  obtain ⟨h1, hl1⟩ := inv_getLast _ hinv1
  obtain ⟨hroll, _⟩ := newHead_ok l hinv hrw (needsRollover l.opts h)
    (fun hr => ⟨_, _, disk_snoc hl, needsRollover_recs hr⟩)
  rw [publishProg_eq hl hl1, applySteps_append, hroll, ← rollover_disk_eq l h hl, disk_snoc hl1,
    interleave_full _ _ _ _ (stamp_lengths _ _ _ _ _ _), publish_eq hrw, append_disk hl1, hopts]
  rfl

theorem append_head_disk (l : Log) (hinv : Inv l) (hrw : l.opts.readonly = false) (h : Seg)
    (hl : l.segs.getLast? = some h) (c : List (Int × List UInt8 × List UInt8)) (f' : Option IdxFile) :
    DiskOKH (l.segs.dropLast.map Seg.toDisk ++ [⟨h.base, h.ver, h.recs ++ Spec.stampSpec l.wNextOff c, f'⟩]) ∧
    absDisk (l.segs.dropLast.map Seg.toDisk ++ [⟨h.base, h.ver, h.recs ++ Spec.stampSpec l.wNextOff c, f'⟩]) =
      abs (l.append c).1 := by
  have hsh : shapeD (l.segs.dropLast.map Seg.toDisk ++
      [⟨h.base, h.ver, h.recs ++ Spec.stampSpec l.wNextOff c, f'⟩]) = shape (l.append c).1.segs := by
    rw [← shapeD_disk, append_disk hl, stamp_fst, shapeD_append, shapeD_append]
    rfl
  have hdok := diskOK_toH (disk_of_inv l hinv).1
  rw [disk_snoc hl] at hdok
  exact ⟨hdok.head _ (by rw [hsh]; exact (append_spec l hinv hrw c).1.shape), by unfold absDisk abs; rw [hsh]⟩

/-- A crash inside the appends leaves what a complete Publish of a prefix of the batch leaves,
with any head index. -/
theorem publish_crash_disk (l : Log) (hinv : Inv l) (hrw : l.opts.readonly = false)
    (b : List (Int × List UInt8 × List UInt8)) (k : Nat) :
    DiskOKH (crashState l (.publish b) k) ∧ CrashOK l (.publish b) (absDisk (crashState l (.publish b) k)) := by
  obtain ⟨h, hl⟩ := inv_getLast l hinv
  obtain ⟨hinv1, habs1, hopts1⟩ := rollover_spec l hinv hrw
  obtain ⟨h1, hl1⟩ := inv_getLast _ hinv1
  have hrw1 : l.rollover.opts.readonly = false := by rw [hopts1]; exact hrw
  obtain ⟨hroll, hstates⟩ := newHead_ok l hinv hrw (needsRollover l.opts h)
    (fun hr => ⟨_, _, disk_snoc hl, needsRollover_recs hr⟩)
  unfold crashState prog
  simp only [hrw, Bool.false_eq_true, if_false]
  rw [publishProg_eq hl hl1]
  rcases crash_append l.disk _ (interleave _ _) k with ⟨k', hk⟩ | ⟨k', hk⟩ <;> rw [hk]
  · rw [(hstates k').2]
    exact ⟨diskOK_toH (hstates k').1, 0, Nat.zero_le _, by simp, by simp⟩
  · rw [hroll, ← rollover_disk_eq l h hl, disk_snoc hl1, stamp_fst]
    obtain ⟨j, hj, f', hst⟩ := interleave_take (Spec.stampSpec l.rollover.wNextOff b) _ k'
      (l.rollover.segs.dropLast.map Seg.toDisk) h1.toDisk
    rw [stampSpec_length] at hj
    rw [hst, stampSpec_take]
    obtain ⟨hH, habs⟩ := append_head_disk l.rollover hinv1 hrw1 h1 hl1 (b.take j) f'
    show DiskOKH (_ ++ [⟨h1.base, h1.ver, h1.recs ++ _, f'⟩]) ∧
      CrashOK l (.publish b) (absDisk (_ ++ [⟨h1.base, h1.ver, h1.recs ++ _, f'⟩]))
    rw [habs, (append_spec l.rollover hinv1 hrw1 (b.take j)).2.2, habs1]
    exact ⟨hH, j, hj, by rw [stampSpec_take], by rw [List.length_take, Nat.min_eq_left hj]⟩

theorem crash_disk (l : Log) (hinv : Inv l) (hrw : l.opts.readonly = false) (op : COp)
    (hnr : ∀ o, op = .delete o → rebasing l o = false) (k : Nat) :
    DiskOKH (crashState l op k) ∧ CrashOK l op (absDisk (crashState l op k)) := by
  cases op with
  | publish b => exact publish_crash_disk l hinv hrw b k
  | delete o =>
    obtain ⟨h1, h2⟩ := delete_crash_disk l hinv hrw o (hnr o rfl) k
    exact ⟨diskOK_toH h1, h2⟩

/-- **Crash recovery**: every crash state of a non-rebasing operation is recovered by
Open(Recover), with any other options, to a log that satisfies the invariant and whose
content is allowed by `CrashOK`. -/
theorem crash_state_recovers (l : Log) (hinv : Inv l) (hrw : l.opts.readonly = false) (op : COp)
    (hnr : ∀ o, op = .delete o → rebasing l o = false) (k : Nat)
    (oo : OpenOpts) (hro : oo.opts.readonly = false) (hrec : oo.recover = true) :
    ∃ l', Log.open (crashState l op k) oo = .ok l' ∧ Inv l' ∧ CrashOK l op (abs l') := by
  obtain ⟨hd, hc⟩ := crash_disk l hinv hrw op hnr k
  obtain ⟨l', hopen, hinv', habs'⟩ := open_recover_spec _ hd oo hrec hro
  exact ⟨l', hopen, hinv', by rw [habs']; exact hc⟩

/-- The same for a reopen with the parameters of the crashed log (exactness of an index does
not depend on them, so `hp` is not used). -/
theorem crash_recovers (l : Log) (hinv : Inv l) (hrw : l.opts.readonly = false) (op : COp)
    (hnr : ∀ o, op = .delete o → rebasing l o = false) (k : Nat)
    (oo : OpenOpts) (hro : oo.opts.readonly = false) (hrec : oo.recover = true)
    (hp : oo.opts.params = l.opts.params) :
    ∃ l', Log.open (crashState l op k) oo = .ok l' ∧ Inv l' ∧ CrashOK l op (abs l') :=
  have _ := hp
  crash_state_recovers l hinv hrw op hnr k oo hro hrec

theorem prog_final (l : Log) (hinv : Inv l) (hrw : l.opts.readonly = false) (op : COp) :
    applySteps l.disk (prog l op) =
      (match op with | .publish b => (l.publish b).1 | .delete o => (l.delete o).1).disk := by
  cases op with
  | publish b =>
    simp only [prog, hrw, Bool.false_eq_true, if_false]
    exact publish_final l hinv hrw b
  | delete o => exact delete_final l hinv hrw o

theorem prog_final_shape (l : Log) (hinv : Inv l) (hrw : l.opts.readonly = false) (op : COp) :
    shapeD (applySteps l.disk (prog l op)) =
      shape (match op with | .publish b => (l.publish b).1 | .delete o => (l.delete o).1).segs := by
  rw [prog_final l hinv hrw op, shapeD_disk]

theorem crashState_last (l : Log) (hinv : Inv l) (hrw : l.opts.readonly = false) (op : COp) :
    crashState l op (prog l op).length =
      (match op with | .publish b => (l.publish b).1 | .delete o => (l.delete o).1).disk := by
  unfold crashState
  rw [List.take_of_length_le (Nat.le_refl _)]
  exact prog_final l hinv hrw op

/-- An empty log, then one batch of three messages: one segment `0: [0, 1, 2]`. -/
def cxL0 : Log := okOr default (Log.open [] cxOpts)
def cxL : Log := (cxL0.publish [(10, [], [1]), (11, [], [2]), (12, [], [3])]).1

theorem cxL0_open : Log.open [] cxOpts = .ok cxL0 := by decide +kernel

theorem cxL_inv : Inv cxL := (publish_step cxL0 (open_nil_spec _ _ cxL0_open).1 _).1

theorem cxL_rw : cxL.opts.readonly = false := by decide +kernel

theorem cxL_content : (abs cxL).live.map (·.off) = [0, 1, 2] ∧ (abs cxL).next = 3 := by decide +kernel

/-- `Delete [0]` removes the first message of the only segment while survivors remain: the
segment moves to base 1. -/
theorem rebase_is_rebasing : rebasing cxL [0] = true := by decide +kernel

/-- The log Open(Recover) makes of the directory two steps into that delete (the rewritten
segment is in at base 1 with its index, the old one is still there). -/
def cxCrashed : Log := okOr default (Log.open (crashState cxL (.delete [0]) 2) cxRecoverOpts)

theorem cxCrashed_open : Log.open (crashState cxL (.delete [0]) 2) cxRecoverOpts = .ok cxCrashed := by decide +kernel

/-- Two overlapping segments: the survivors appear twice. -/
theorem rebase_crash_counterexample :
    ∃ l', Log.open (crashState cxL (.delete [0]) 2) cxRecoverOpts = .ok l' ∧
      (abs l').live.map (·.off) = [0, 1, 2, 1, 2] :=
  ⟨cxCrashed, cxCrashed_open, by decide +kernel⟩

theorem rebase_crash_not_ok (l' : Log)
    (h : Log.open (crashState cxL (.delete [0]) 2) cxRecoverOpts = .ok l') :
    ¬ CrashOK cxL (.delete [0]) (abs l') := by
  rw [cxCrashed_open] at h
  simp only [Out.ok.injEq] at h
  subst h
  show ¬ (abs cxCrashed = abs cxL ∨ abs cxCrashed = abs (cxL.delete [0]).1)
  decide +kernel

/-- The recovered log does not even satisfy the invariant (its segments overlap). -/
theorem rebase_crash_not_inv (l' : Log)
    (h : Log.open (crashState cxL (.delete [0]) 2) cxRecoverOpts = .ok l') : ¬ Inv l' := by
  rw [cxCrashed_open] at h
  simp only [Out.ok.injEq] at h
  subst h
  intro hinv
  have ho := hinv.shape.order
  have h2 : shape cxCrashed.segs =
      [(0, [⟨0, 10, [], [1]⟩, ⟨1, 11, [], [2]⟩, ⟨2, 12, [], [3]⟩]), (1, [⟨1, 11, [], [2]⟩, ⟨2, 12, [], [3]⟩])] := by
    decide +kernel
  rw [h2] at ho
  simp only [List.pairwise_cons] at ho
  have h3 := (ho.1 (1, [⟨1, 11, [], [2]⟩, ⟨2, 12, [], [3]⟩]) (List.mem_singleton.mpr rfl)).2
    ⟨1, 11, [], [2]⟩ (by simp)
  exact absurd h3 (by decide +kernel)

/-- Hence `crash_recovers` is false without the hypothesis `hnr`. -/
theorem crash_recovers_needs_nonrebasing :
    ¬ (∀ (l : Log), Inv l → l.opts.readonly = false → ∀ (op : COp) (k : Nat) (oo : OpenOpts),
        oo.opts.readonly = false → oo.recover = true → oo.opts.params = l.opts.params →
        ∃ l', Log.open (crashState l op k) oo = .ok l' ∧ Inv l' ∧ CrashOK l op (abs l')) := by
  intro hall
  obtain ⟨l', h, _, hc⟩ := hall cxL cxL_inv cxL_rw (.delete [0]) 2 cxRecoverOpts (by decide) (by decide) (by decide)
  exact rebase_crash_not_ok l' h hc

/-- Two batches with a rollover in between: segments `0: [0, 1]` and `2: [2, 3]`. -/
def cx2L : Log := (cx2L1.publish [(12, [], [3]), (13, [], [4])]).1

theorem cx2L_inv : Inv cx2L := (publish_step cx2L1 cx2L1_inv _).1

theorem cx2L_shape : (shape cx2L.segs).map (fun br => (br.1, br.2.map (·.off))) = [(0, [0, 1]), (2, [2, 3])] := by
  decide +kernel

/-- Deleting the last message: the tail of the head goes away, the survivor keeps base 2, a
new head opens at 4 — the program is
`[createSeg 4, putIdx 4, removeIdx 2, putLog 2 [2], putIdx 2]`, not rebasing. -/
theorem cx2_not_rebasing : rebasing cx2L [3] = false := by decide +kernel

theorem cx2_prog_length : (prog cx2L (.delete [3])).length = 5 := by decide +kernel

/-- The content of every crash state of that delete: before, …, before, after, after. -/
theorem cx2_crash_contents :
    (crashStates cx2L (.delete [3])).map (fun d => ((absDisk d).live.map (·.off), (absDisk d).next)) =
      [([0, 1, 2, 3], 4), ([0, 1, 2, 3], 4), ([0, 1, 2, 3], 4), ([0, 1, 2, 3], 4), ([0, 1, 2], 4), ([0, 1, 2], 4)] := by
  decide +kernel

/-- One instance of the conclusion of `crash_recovers`, with the recovered content computed:
the crash after `putLog 2` (the rewritten log is in, its index is not). -/
theorem cx2_crash_recovers :
    ∃ l', Log.open (crashState cx2L (.delete [3]) 4) cx2RecoverOpts = .ok l' ∧ Inv l' ∧
      CrashOK cx2L (.delete [3]) (abs l') ∧ (abs l').live.map (·.off) = [0, 1, 2] ∧ (abs l').next = 4 := by
  obtain ⟨l', h, hinv, hc⟩ := crash_recovers cx2L cx2L_inv (by decide +kernel) (.delete [3])
    (by intro o ho; cases ho; exact cx2_not_rebasing) 4 cx2RecoverOpts (by decide +kernel) (by decide +kernel) (by decide +kernel)
  refine ⟨l', h, hinv, hc, ?_⟩
  have h' : Log.open (crashState cx2L (.delete [3]) 4) cx2RecoverOpts =
      .ok (okOr default (Log.open (crashState cx2L (.delete [3]) 4) cx2RecoverOpts)) := by decide +kernel
  rw [h'] at h
  simp only [Out.ok.injEq] at h
  subst h
  decide +kernel

/-- A Publish that rolls: the content of every crash state is the acknowledged messages
plus a prefix of the batch
(`[createSeg 4, putIdx 4, appendRec, appendItem, appendRec, appendItem]`). -/
theorem cx2_publish_contents :
    (crashStates cx2L (.publish [(14, [], [5]), (15, [], [6])])).map
        (fun d => ((absDisk d).live.map (·.off), (absDisk d).next)) =
      [([0, 1, 2, 3], 4), ([0, 1, 2, 3], 4), ([0, 1, 2, 3], 4), ([0, 1, 2, 3, 4], 5), ([0, 1, 2, 3, 4], 5),
       ([0, 1, 2, 3, 4, 5], 6), ([0, 1, 2, 3, 4, 5], 6)] := by
  decide +kernel

/-- Recover rewrites the stale head index of the crash between a record and its item. -/
theorem cx2_publish_recovers :
    ∃ l', Log.open (crashState cx2L (.publish [(14, [], [5]), (15, [], [6])]) 3) cx2RecoverOpts = .ok l' ∧
      Inv l' ∧ (abs l').live.map (·.off) = [0, 1, 2, 3, 4] ∧ (abs l').next = 5 := by
  obtain ⟨l', h, hinv, _⟩ := crash_recovers cx2L cx2L_inv (by decide +kernel) (.publish [(14, [], [5]), (15, [], [6])])
    (by intro o ho; cases ho) 3 cx2RecoverOpts (by decide +kernel) (by decide +kernel) (by decide +kernel)
  refine ⟨l', h, hinv, ?_⟩
  have h' : Log.open (crashState cx2L (.publish [(14, [], [5]), (15, [], [6])]) 3) cx2RecoverOpts =
      .ok (okOr default (Log.open (crashState cx2L (.publish [(14, [], [5]), (15, [], [6])]) 3) cx2RecoverOpts)) := by
    decide +kernel
  rw [h'] at h
  simp only [Out.ok.injEq] at h
  subst h
  decide +kernel

end Klev.Crash

#print axioms Klev.Crash.open_recover_spec
#print axioms Klev.Crash.crash_disk
#print axioms Klev.Crash.crash_recovers
#print axioms Klev.Crash.prog_final
#print axioms Klev.Crash.prog_final_shape
#print axioms Klev.Crash.crashState_last
#print axioms Klev.Crash.rebase_is_rebasing
#print axioms Klev.Crash.rebase_crash_counterexample
#print axioms Klev.Crash.rebase_crash_not_ok
#print axioms Klev.Crash.rebase_crash_not_inv
#print axioms Klev.Crash.crash_recovers_needs_nonrebasing
#print axioms Klev.Crash.cx2_crash_contents
#print axioms Klev.Crash.cx2_crash_recovers
#print axioms Klev.Crash.cx2_publish_contents
#print axioms Klev.Crash.cx2_publish_recovers
