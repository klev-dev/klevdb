/-
The functions of `Klev/Gen/Search.lean` — generated statement by statement from
`pkg/index/offset.go`, `pkg/index/times.go` and `pkg/segment/index.go` — are *equal*, on
every input, to the hand-written models of `Klev/Index.lean` about which the theorems of
`Klev.Proofs.IndexSearch`, `Klev.Proofs.SegSearch` (and everything downstream) are proved.
So those theorems are theorems about the translated Go code.
-/
import Klev.Gen.Search
import Klev.Proofs.IndexSearch
namespace Klev
namespace SearchTie

theorem getI_nil {α : Type} (i : Int) : getI ([] : List α) i = .error .panic := by
  unfold getI
  split <;> simp

theorem getI_ends {α : Type} (a : α) (rest : List α) :
    ∃ z, (a :: rest).getLast? = some z ∧ ¬ (((a :: rest).length : Int) = 0) ∧
      getI (a :: rest) 0 = .ok a ∧ getI (a :: rest) (((a :: rest).length : Int) - 1) = .ok z := by
  have hn : rest.length < (a :: rest).length := Nat.lt_succ_self _
  refine ⟨(a :: rest)[rest.length], ?_, Int.natCast_ne_zero.mpr (Nat.succ_ne_zero _),
    getI_natCast (a :: rest) (i := 0) (Nat.succ_pos rest.length), ?_⟩
  · rw [List.getLast?_eq_getElem?]
    exact List.getElem?_eq_getElem hn
  · rw [List.length_cons, Int.natCast_succ, Int.add_sub_cancel]
    exact getI_natCast _ hn

theorem indexConsume_loop_tie (items : List Item) (off : Int) (first last : Item) :
    ∀ (fuel : Nat) (b e : Int),
      Gen.Search.indexConsume_loop1 items off first last fuel b e
        = Index.consumeLoop items off last.pos fuel b e := by
  intro fuel
  induction fuel with
  | zero => exact fun b e => rfl
  | succ n ih =>
    intro b e
    simp only [Gen.Search.indexConsume_loop1, Index.consumeLoop, ih]
    rfl

theorem indexGet_loop_tie (items : List Item) (off : Int) (first last : Item) :
    ∀ (fuel : Nat) (b e : Int),
      Gen.Search.indexGet_loop1 items off first last fuel b e
        = Index.getLoop items off fuel b e := by
  intro fuel
  induction fuel with
  | zero => exact fun b e => rfl
  | succ n ih =>
    intro b e
    simp only [Gen.Search.indexGet_loop1, Index.getLoop, ih]
    rfl

theorem segConsume_loop_tie (bases : List Int) (off first last : Int) :
    ∀ (fuel : Nat) (b e : Int),
      Gen.Search.segConsume_loop1 bases off first last fuel b e
        = SegSearch.loop bases off fuel b e := by
  intro fuel
  induction fuel with
  | zero => exact fun b e => rfl
  | succ n ih =>
    intro b e
    simp only [Gen.Search.segConsume_loop1, SegSearch.loop, ih]
    -- the translation reads `segments[beginIndex]` a second time before returning `beginIndex`
    cases getI bases b <;> rfl

/-- what `SegSearch.get` does with the result of the shared loop -/
def liftGet (r : IRes Int) : IRes (Except SegSearch.GetErr Int) :=
  match r with
  | .ok i => .ok (.ok i)
  | .error x => .error x

theorem segGet_loop_tie (bases : List Int) (off first last : Int) :
    ∀ (fuel : Nat) (b e : Int),
      Gen.Search.segGet_loop1 bases off first last fuel b e
        = liftGet (SegSearch.loop bases off fuel b e) := by
  intro fuel
  induction fuel with
  | zero => exact fun b e => rfl
  | succ n ih =>
    intro b e
    simp only [Gen.Search.segGet_loop1, SegSearch.loop, ih]
    -- once the slice reads are settled `liftGet` goes inside each `if`
    by_cases hlt : b < e
    · rw [if_pos hlt, if_pos hlt]
      cases getI bases ((b + e) / 2) with
      | error x => rfl
      | ok v =>
        simp only [apply_ite liftGet]
        rfl
    · rw [if_neg hlt, if_neg hlt]
      cases getI bases b with
      | error x => rfl
      | ok v =>
        simp only [apply_ite liftGet]
        cases getI bases (b - 1) <;> rfl

/-- `sort.Search` over `int` with the closure of `index.Time` is the `Nat` loop. -/
theorem sortSearchP_eq (items : List Item) (ts : Int) (f : Int → Bool)
    (hf : ∀ (h : Nat) (hh : h < items.length), f (h : Int) = decide (items[h].ts ≥ ts)) :
    ∀ (fuel i j : Nat), j ≤ items.length →
      Index.sortSearchP f fuel (i : Int) (j : Int)
        = ((Index.sortSearch items ts fuel i j : Nat) : Int) := by
  intro fuel
  induction fuel with
  | zero => exact fun i j _ => rfl
  | succ n ih =>
    intro i j hj
    rw [Index.sortSearchP, Index.sortSearch]
    by_cases hij : i < j
    · obtain ⟨_, hmj⟩ := mid_bounds hij
      have hmid : ((i : Int) + (j : Int)) / 2 = (((i + j) / 2 : Nat) : Int) := by
        rw [Int.natCast_ediv, Int.natCast_add]
        rfl
      generalize (i + j) / 2 = h at hmid hmj
      have hlt : h < items.length := Nat.lt_of_lt_of_le hmj hj
      simp only [if_pos (Int.ofNat_lt.mpr hij), if_pos hij, hmid, hf _ hlt,
        List.getElem?_eq_getElem hlt]
      by_cases hts : items[h].ts ≥ ts
      · simp only [hts, decide_true, Bool.not_true, Bool.false_eq_true, if_false,
          not_true_eq_false]
        exact ih i h (Nat.le_of_lt hlt)
      · simp only [hts, decide_false, Bool.not_false, if_true, not_false_eq_true]
        exact ih (h + 1) j hj
    · rw [if_neg (mt Int.ofNat_lt.mp hij), if_neg hij]

end SearchTie

open SearchTie

theorem indexConsume_tie (items : List Item) (off : Int) :
    Gen.Search.indexConsume items off = Index.consume items off := by
  unfold Gen.Search.indexConsume Index.consume
  rcases items with _ | ⟨a, rest⟩
  · simp
  · obtain ⟨z, hz, hne, h0, hl⟩ := getI_ends a rest
    simp only [if_neg hne, List.head?_cons, hz, h0, hl, indexConsume_loop_tie]

theorem indexGet_tie (items : List Item) (off : Int) :
    Gen.Search.indexGet items off = Index.get items off := by
  unfold Gen.Search.indexGet Index.get
  rcases items with _ | ⟨a, rest⟩
  · simp
  · obtain ⟨z, hz, hne, h0, hl⟩ := getI_ends a rest
    simp only [if_neg hne, List.head?_cons, hz, h0, hl, indexGet_loop_tie]

theorem indexTime_tie (items : List Item) (ts : Int) :
    Gen.Search.indexTime items ts = Index.time items ts := by
  unfold Gen.Search.indexTime Index.time
  rcases items with _ | ⟨a, rest⟩
  · simp
  · obtain ⟨z, hz, hne, h0, hl⟩ := getI_ends a rest
    simp only [if_neg hne, List.head?_cons, hz, h0, hl]
    have hss := fun f hf => sortSearchP_eq (a :: rest) ts f hf ((a :: rest).length + 1) 0
      (a :: rest).length (Nat.le_refl _)
    rw [Int.natCast_zero] at hss
    rw [hss _ fun h hh => by rw [getI_natCast _ hh]]
    rfl

theorem segConsume_tie (bases : List Int) (off : Int) :
    Gen.Search.segConsume bases off = SegSearch.consume bases off := by
  unfold Gen.Search.segConsume SegSearch.consume
  rcases bases with _ | ⟨a, rest⟩
  · simp [getI_nil]
  · obtain ⟨z, hz, -, h0, hl⟩ := getI_ends a rest
    simp only [List.head?_cons, hz, h0, hl, segConsume_loop_tie]

theorem segGet_tie (bases : List Int) (off : Int) :
    Gen.Search.segGet bases off = SegSearch.get bases off := by
  unfold Gen.Search.segGet SegSearch.get
  rcases bases with _ | ⟨a, rest⟩
  · simp [getI_nil]
  · obtain ⟨z, hz, -, h0, hl⟩ := getI_ends a rest
    simp only [List.head?_cons, hz, h0, hl, segGet_loop_tie, liftGet]
    rfl

end Klev

#print axioms Klev.indexConsume_tie
#print axioms Klev.indexGet_tie
#print axioms Klev.indexTime_tie
#print axioms Klev.segConsume_tie
#print axioms Klev.segGet_tie
