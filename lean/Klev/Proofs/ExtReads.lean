/-
Histories that also contain the lookups. `GetByKey`, `ConsumeByKey` and `GetByTime` change
the state (they load indexes), and `Reach.Op` does not list them; here they are added
(`OpX`) and every invariant — `Inv`, `FirstAtBase`, `KeysInv`, `TimesInv`, `Monotone`, the
time carry — is shown to survive them, so the refinement theorems of all three lookups
hold in every state reachable by publishes, deletes, reads, lookups, GC and reopens.
-/
import Klev.Proofs.ExtRun
namespace Klev

/-- All side conditions of the lookups' refinement theorems. -/
structure Good (l : Log) : Prop where
  inv : Inv l
  fab : FirstAtBase l
  keys : l.opts.params.keys = true → KeysInv l
  times : l.opts.params.times = true → TimesInv l ∧ Spec.Monotone (abs l)

theorem Good.loads {l l' : Log} (hg : Good l) (h : Loads l l') : Good l' := by
  have hl := h.loaded hg.inv
  refine ⟨hl.inv, h.fab hg.fab, ?_, ?_⟩
  · intro hk
    rw [hl.opts] at hk
    exact h.segsP KeysFor (hg.keys hk) (fun _ _ _ _ _ => derive_keysFor _ _ _ hk)
  · intro hp
    rw [hl.opts] at hp
    obtain ⟨hti, hm⟩ := hg.times hp
    exact ⟨h.segsP TimesFor hti (segDer_times l hp hm), by rw [hl.abs]; exact hm⟩

theorem Good.step {l : Log} (hg : Good l) (op : Op) (hpar : OpParams l.opts.params op)
    (hpub : l.opts.params.times = true → PubTimesOK l op) : Good (stepOp l op) := by
  refine ⟨(step_inv_abs l hg.inv op).1, firstAtBase_step l hg.inv hg.fab op,
    keysInv'_step l hg.inv hg.keys op hpar, ?_⟩
  intro hp
  rw [step_params l op hpar] at hp
  obtain ⟨hti, hm⟩ := hg.times hp
  exact ⟨timesInv_step l hg.inv hp hti hm op hpar (hpub hp), monotone_step l hg.inv hm op (hpub hp)⟩

theorem good_open_empty (oo : OpenOpts) (l0 : Log) (h : Log.open [] oo = .ok l0) : Good l0 := by
  obtain ⟨hinv, habs, _⟩ := open_nil_spec oo l0 h
  exact ⟨hinv, firstAtBase_open_empty oo l0 h, fun _ => keysInv_open_empty oo l0 h,
    fun _ => ⟨timesInv_open_empty oo l0 h, by rw [habs]; exact monotone_empty⟩⟩

/-- **All three lookups are correct on a `Good` state.** -/
theorem Good.lookups {l : Log} (hg : Good l) :
    (∀ key, Spec.GetByKeyOK l.opts.params.keys (abs l) key (l.getByKey key).2) ∧
    (∀ key off mc, Spec.ConsumeByKeyOK l.opts.params.keys (abs l) key off mc
      (l.consumeByKey key off mc).2) ∧
    (∀ t, Spec.GetByTimeOK l.opts.params.times (abs l) t (l.getByTime t).2) := by
  exact ⟨fun key => getByKey_ok' l hg.inv hg.keys key,
    fun key off mc => consumeByKey_ok' l hg.inv hg.keys key off mc,
    fun t => getByTime_ok' l hg.inv hg.fab hg.times t⟩

inductive OpX where
  | op (o : Op)
  | getByKey (key : List UInt8)
  | consumeByKey (key : List UInt8) (off mc : Int)
  | getByTime (t : Int)

def stepX (l : Log) : OpX → Log
  | .op o => stepOp l o
  | .getByKey key => (l.getByKey key).1
  | .consumeByKey key off mc => (l.consumeByKey key off mc).1
  | .getByTime t => (l.getByTime t).1

def runX (l : Log) : List OpX → Log
  | [] => l
  | x :: rest => runX (stepX l x) rest

def OpParamsX (p : Params) : OpX → Prop
  | .op o => OpParams p o
  | _ => True

def SameParamsX (p : Params) : List OpX → Prop
  | [] => True
  | x :: rest => OpParamsX p x ∧ SameParamsX p rest

def PubTimesOKX (l : Log) : OpX → Prop
  | .op o => PubTimesOK l o
  | _ => True

def TimesOKRunX (l : Log) : List OpX → Prop
  | [] => True
  | x :: rest => PubTimesOKX l x ∧ TimesOKRunX (stepX l x) rest

theorem stepX_loads (l : Log) (x : OpX) : (∃ o, x = .op o) ∨ Loads l (stepX l x) := by
  cases x with
  | op o => exact Or.inl ⟨o, rfl⟩
  | getByKey key => exact Or.inr (getByKey_loads l key)
  | consumeByKey key off mc => exact Or.inr (consumeByKey_loads l key off mc)
  | getByTime t => exact Or.inr (getByTime_loads l t)

theorem stepX_params (l : Log) (x : OpX) (hpar : OpParamsX l.opts.params x) :
    (stepX l x).opts.params = l.opts.params := by
  rcases stepX_loads l x with ⟨o, rfl⟩ | h
  · exact step_params l o hpar
  · rw [h.opts]

theorem Good.stepX {l : Log} (hg : Good l) (x : OpX) (hpar : OpParamsX l.opts.params x)
    (hpub : l.opts.params.times = true → PubTimesOKX l x) : Good (stepX l x) := by
  rcases stepX_loads l x with ⟨o, rfl⟩ | h
  · exact hg.step o hpar hpub
  · exact hg.loads h

theorem good_runX (l : Log) (hg : Good l) (xs : List OpX) (hsame : SameParamsX l.opts.params xs)
    (hok : l.opts.params.times = true → TimesOKRunX l xs) : Good (runX l xs) := by
  induction xs generalizing l with
  | nil => exact hg
  | cons x rest ih =>
    obtain ⟨h1, h2⟩ := hsame
    have hs := stepX_params l x h1
    refine ih (stepX l x) (hg.stepX x h1 (fun hp => (hok hp).1)) (by rw [hs]; exact h2) ?_
    intro hp
    rw [hs] at hp
    exact (hok hp).2

/-- **C09 and C10 on every reachable state**, lookups included in the history. -/
theorem lookups_ok_runX (oo : OpenOpts) (xs : List OpX) (hsame : SameParamsX oo.opts.params xs) :
    ∀ l0, Log.open [] oo = .ok l0 → (oo.opts.params.times = true → TimesOKRunX l0 xs) →
    (∀ key, Spec.GetByKeyOK (runX l0 xs).opts.params.keys (abs (runX l0 xs)) key
      ((runX l0 xs).getByKey key).2) ∧
    (∀ key off mc, Spec.ConsumeByKeyOK (runX l0 xs).opts.params.keys (abs (runX l0 xs)) key off mc
      ((runX l0 xs).consumeByKey key off mc).2) ∧
    (∀ t, Spec.GetByTimeOK (runX l0 xs).opts.params.times (abs (runX l0 xs)) t
      ((runX l0 xs).getByTime t).2) := by
  intro l0 ho hok
  obtain ⟨_, _, hopts⟩ := open_nil_spec oo l0 ho
  exact (good_runX l0 (good_open_empty oo l0 ho) xs (by rw [hopts]; exact hsame)
    (by rw [hopts]; exact hok)).lookups

def hwNextX (hw : Int) : OpX → Int
  | .op o => hwNext hw o
  | _ => hw

def PubMonoOpX (hw : Int) : OpX → Prop
  | .op o => PubMonoOp hw o
  | _ => True

/-- The published times never decrease along the extended history, starting from `hw`. -/
def PubMonoX (hw : Int) : List OpX → Prop
  | [] => True
  | x :: rest => PubMonoOpX hw x ∧ PubMonoX (hwNextX hw x) rest

theorem timeCarry_stepX (l : Log) (hg : Good l) (hp : l.opts.params.times = true) (hw : Int)
    (hc : TimeCarry l hw) (x : OpX) (hpar : OpParamsX l.opts.params x)
    (hmono : PubMonoOpX hw x) : PubTimesOKX l x ∧ TimeCarry (stepX l x) (hwNextX hw x) := by
  cases x with
  | op o =>
    obtain ⟨hti, hm⟩ := hg.times hp
    exact timeCarry_step l hg.inv hp hti hm hw hc o hpar hmono
  | getByKey key => exact ⟨trivial, hc.loaded ((getByKey_loads l key).loaded hg.inv)⟩
  | consumeByKey key off mc =>
    exact ⟨trivial, hc.loaded ((consumeByKey_loads l key off mc).loaded hg.inv)⟩
  | getByTime t => exact ⟨trivial, hc.loaded ((getByTime_loads l t).loaded hg.inv)⟩

theorem timesOKRunX_of_pubMonoX (l : Log) (hg : Good l) (hp : l.opts.params.times = true)
    (hw : Int) (hc : TimeCarry l hw) (xs : List OpX) (hsame : SameParamsX l.opts.params xs)
    (hmono : PubMonoX hw xs) : TimesOKRunX l xs := by
  induction xs generalizing l hw with
  | nil => trivial
  | cons x rest ih =>
    obtain ⟨h1, h2⟩ := hsame
    obtain ⟨k1, k2⟩ := hmono
    obtain ⟨hpub, hc'⟩ := timeCarry_stepX l hg hp hw hc x h1 k1
    have hs := stepX_params l x h1
    exact ⟨hpub, ih (stepX l x) (hg.stepX x h1 (fun _ => hpub)) (by rw [hs]; exact hp)
      (hwNextX hw x) hc' (by rw [hs]; exact h2) k2⟩

theorem runX_params (l : Log) (xs : List OpX) (hsame : SameParamsX l.opts.params xs) :
    (runX l xs).opts.params = l.opts.params := by
  induction xs generalizing l with
  | nil => rfl
  | cons x rest ih =>
    have hs := stepX_params l x hsame.1
    show (runX (stepX l x) rest).opts.params = _
    rw [ih (stepX l x) (by rw [hs]; exact hsame.2), hs]

theorem good_runX_mono (oo : OpenOpts) (xs : List OpX) (hsame : SameParamsX oo.opts.params xs)
    (hmono : oo.opts.params.times = true → PubMonoX 0 xs) :
    ∀ l0, Log.open [] oo = .ok l0 → Good (runX l0 xs) := by
  intro l0 ho
  obtain ⟨_, habs, hopts⟩ := open_nil_spec oo l0 ho
  have hg := good_open_empty oo l0 ho
  rw [← hopts] at hsame hmono
  refine good_runX l0 hg xs hsame (fun hp => ?_)
  refine timesOKRunX_of_pubMonoX l0 hg hp 0 ⟨Int.le_refl _, ?_, ?_⟩ xs hsame (hmono hp)
  · rw [open_empty_time oo l0 ho]; exact Int.le_refl _
  · rw [habs]; intro m hmm; cases hmm

/-- **C09 and C10 for monotone histories** (lookups included): the only conditions are on the
operation list — reopens keep the index configuration and, when the time index is
configured, published times are non-negative and never decrease. -/
theorem lookups_ok_monoX (oo : OpenOpts) (xs : List OpX) (hsame : SameParamsX oo.opts.params xs)
    (hmono : oo.opts.params.times = true → PubMonoX 0 xs) :
    ∀ l0, Log.open [] oo = .ok l0 →
    (∀ key, Spec.GetByKeyOK (runX l0 xs).opts.params.keys (abs (runX l0 xs)) key
      ((runX l0 xs).getByKey key).2) ∧
    (∀ key off mc, Spec.ConsumeByKeyOK (runX l0 xs).opts.params.keys (abs (runX l0 xs)) key off mc
      ((runX l0 xs).consumeByKey key off mc).2) ∧
    (∀ t, Spec.GetByTimeOK (runX l0 xs).opts.params.times (abs (runX l0 xs)) t
      ((runX l0 xs).getByTime t).2) :=
  fun l0 ho => (good_runX_mono oo xs hsame hmono l0 ho).lookups

end Klev
