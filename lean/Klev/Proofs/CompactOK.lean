/-
Compaction (compact_updates.go, compact_deletes.go) = `FindUpdates` / `FindDeletes`, then
`Delete` (single: one segment per call) or `DeleteMulti`. Whatever subset of the selection a
call removes, the latest value of every key is unchanged. The pure L0 facts are in
`Klev/Proofs/CompactPure.lean`; here they are lifted to the model.
-/
import Klev.Proofs.HelpersOK
import Klev.Proofs.DeleteMultiOK
import Klev.Proofs.CompactPure
namespace Klev

open Helpers

theorem findUpdates_eq (l : Log) (h : Inv l) (t : Int) :
    ∃ l', Loaded l l' ∧ findUpdates l t =
      (l', .ok ((Spec.scanned (abs l) t).foldl updStep ([], [])).2) := by
  obtain ⟨l1, hnx, hld0⟩ := nextOffset_eq l h
  obtain ⟨l', hld, hres⟩ := scanLoop_foldl_next (fun m => decide (m.time ≤ t)) updStep l1 hld0.inv
    ([], [])
  rw [hld0.abs] at hres
  refine ⟨l', hld0.trans hld, ?_⟩
  unfold findUpdates
  rw [hnx]
  dsimp only
  unfold twStep at hres
  rw [hres]
  rfl

theorem findUpdates_ok (l : Log) (h : Inv l) (t : Int) :
    Spec.FindUpdatesOK (abs l) t (findUpdates l t).2 ∧
    Inv (findUpdates l t).1 ∧ abs (findUpdates l t).1 = abs l := by
  obtain ⟨l', hld, heq⟩ := findUpdates_eq l h t
  rw [heq]
  exact ⟨updStep_fold_sameSet _, hld.inv, hld.abs⟩

theorem findDeletes_eq (l : Log) (h : Inv l) (t : Int) :
    ∃ l', Loaded l l' ∧ findDeletes l t =
      (l', .ok (Spec.offsOf (Spec.firstOfKeyNoValue (Spec.scanned (abs l) t) []))) := by
  obtain ⟨l1, hnx, hld0⟩ := nextOffset_eq l h
  obtain ⟨l', hld, hres⟩ := scanLoop_foldl_next (fun m => decide (m.time ≤ t)) delStep l1 hld0.inv
    ([], [])
  rw [hld0.abs] at hres
  refine ⟨l', hld0.trans hld, ?_⟩
  unfold findDeletes
  rw [hnx]
  dsimp only
  unfold twStep at hres
  rw [hres]
  exact congrArg (fun a => (l', Out.ok a)) ((delStep_fold _ [] []).trans (List.nil_append _))

theorem findDeletes_ok (l : Log) (h : Inv l) (t : Int) :
    Spec.FindDeletesOK (abs l) t (findDeletes l t).2 ∧
    Inv (findDeletes l t).1 ∧ abs (findDeletes l t).1 = abs l := by
  obtain ⟨l', hld, heq⟩ := findDeletes_eq l h t
  rw [heq]
  exact ⟨Spec.SameSet.refl _, hld.inv, hld.abs⟩

/-- **CompactUpdates / CompactUpdatesMulti.** The call keeps the invariant, removes exactly the
messages it reports, never changes the latest value of any key, and every removed message is
not newer than `t` and has a later live message with the same key. -/
theorem compactUpdates_model (l : Log) (h : Inv l) (t : Int) (multi : Bool) :
    let r := thenDelete multi (findUpdates l t)
    Inv r.1 ∧ (abs r.1).live = Spec.removeAll (abs l).live r.2.msgs ∧ (abs r.1).next = (abs l).next ∧
    Spec.CompactLatestOK (abs l) (abs r.1) ∧ (∀ k, Spec.latest (abs r.1) k = Spec.latest (abs l) k) ∧
    Spec.CompactUpdatesRemovedOK (abs l) t r.2.msgs := by
  obtain ⟨l', hld, heq⟩ := findUpdates_eq l h t
  rw [heq]
  have hrem := thenDelete_removed l l' hld multi ((Spec.scanned (abs l) t).foldl updStep ([], [])).2
  obtain ⟨h1, h2, h3⟩ := Spec.compactUpdates_latest (abs l) _ (abs_wf l h) t _
    (fun d hd => ⟨(hrem.sub d hd).1, (updStep_fold_sameSet _).1 _ (hrem.sub d hd).2⟩) hrem.live
  exact ⟨hrem.inv, hrem.live, hrem.next, h1, h2, h3⟩

/-- **CompactDeletes / CompactDeletesMulti.** The call keeps the invariant, removes exactly the
messages it reports, never changes the latest value of any key (a removed tombstone that was
the only message of its key leaves the key absent, as it was), and every removed message is
value-less, not newer than `t`, and the oldest live message of its key. -/
theorem compactDeletes_model (l : Log) (h : Inv l) (t : Int) (multi : Bool) :
    let r := thenDelete multi (findDeletes l t)
    Inv r.1 ∧ (abs r.1).live = Spec.removeAll (abs l).live r.2.msgs ∧ (abs r.1).next = (abs l).next ∧
    Spec.CompactLatestOK (abs l) (abs r.1) ∧ (∀ k, Spec.latest (abs r.1) k = Spec.latest (abs l) k) ∧
    Spec.CompactDeletesRemovedOK (abs l) t r.2.msgs := by
  obtain ⟨l', hld, heq⟩ := findDeletes_eq l h t
  rw [heq]
  have hrem := thenDelete_removed l l' hld multi
    (Spec.offsOf (Spec.firstOfKeyNoValue (Spec.scanned (abs l) t) []))
  obtain ⟨h1, h2, h3⟩ := Spec.compactDeletes_latest (abs l) _ (abs_wf l h) t _ hrem.sub hrem.live
  exact ⟨hrem.inv, hrem.live, hrem.next, h1, h2, h3⟩

/-- **CompactUpdatesMulti.** On a read-write log whose times never decrease, the call does not
fail, and afterwards there is at most one message per key among those not newer than `t`. -/
theorem compactUpdatesMulti_model (l : Log) (h : Inv l) (hro : l.opts.readonly = false) (t : Int)
    (hmono : Spec.Monotone (abs l)) :
    let r := thenDelete true (findUpdates l t)
    r.2.err = none ∧ Spec.AtMostOnePerKey (abs r.1) t ∧
    (∀ d, d ∈ r.2.msgs ↔ d ∈ Spec.hasLaterSameKey (Spec.scanned (abs l) t)) := by
  obtain ⟨l', hld, heq⟩ := findUpdates_eq l h t
  rw [heq]
  have hwf := abs_wf l h
  have hsub := (Spec.hasLaterSameKey_sublist _).trans (Spec.scanned_prefix (abs l) t).sublist
  obtain ⟨_, he, _, hm, hl⟩ := thenDelete_multi_exact l l' hld hro _ _ hsub
    (updStep_fold_sameSet (Spec.scanned (abs l) t)) _ rfl
  refine ⟨he, ?_, fun d => by rw [hm]⟩
  apply Spec.compactUpdatesMulti_one_per_key (abs l) _ hwf hmono t _ hl
  intro m hm' hsel
  rw [hl, mem_removeAll] at hm'
  exact hm'.2 ((off_mem_offsOf_iff hwf.1 (fun _ hx => hsub.subset hx) hm'.1).mp hsel)

/-- **CompactDeletesMulti.** On a read-write log the call does not fail and removes exactly the
selection: every value-less message not newer than `t` (in scan order) that is the oldest of
its key. -/
theorem compactDeletesMulti_model (l : Log) (h : Inv l) (hro : l.opts.readonly = false) (t : Int) :
    let r := thenDelete true (findDeletes l t)
    r.2.err = none ∧
    (∀ d, d ∈ r.2.msgs ↔ d ∈ Spec.firstOfKeyNoValue (Spec.scanned (abs l) t) []) := by
  obtain ⟨l', hld, heq⟩ := findDeletes_eq l h t
  rw [heq]
  obtain ⟨_, he, _, hm, _⟩ := thenDelete_multi_exact l l' hld hro _ _
    ((Spec.firstOfKeyNoValue_sublist _ []).trans (Spec.scanned_prefix (abs l) t).sublist)
    (Spec.SameSet.refl _) _ rfl
  exact ⟨he, fun d => by rw [hm]⟩

end Klev

#print axioms Klev.findUpdates_ok
#print axioms Klev.findDeletes_ok
#print axioms Klev.compactUpdates_model
#print axioms Klev.compactDeletes_model
#print axioms Klev.compactUpdatesMulti_model
#print axioms Klev.compactDeletesMulti_model
