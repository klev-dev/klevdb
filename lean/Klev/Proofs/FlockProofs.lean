/-
The lock table of `Klev/Flock.lean` (C19) in the source's case, a failed Open releasing its lock:
every operation keeps `LockInv`, so every run does.
-/
import Klev.Flock
namespace Klev

theorem lockStep_inv (s : LockSt) (op : LockOp) (h : LockInv s) : LockInv (lockStep true s op).1 := by
  cases op with
  | openRW lf =>
    rw [lockStep]
    by_cases hc : s.writers = 0 ∧ s.readers = 0
    · rw [if_pos hc]
      cases lf
      · exact ⟨Nat.le_refl 1, fun _ => hc.2⟩
      · exact h
    · rw [if_neg hc]; exact h
  | openRO lf =>
    rw [lockStep]
    by_cases hc : s.writers = 0
    · rw [if_pos hc]
      cases lf
      · exact ⟨hc ▸ Nat.zero_le 1, fun h1 => by rw [hc] at h1; cases h1⟩
      · exact h
    · rw [if_neg hc]; exact h
  | closeRW =>
    rw [lockStep]
    by_cases hc : s.writers = 0
    · rw [if_pos hc]; exact h
    · rw [if_neg hc]
      exact ⟨Nat.le_trans (Nat.sub_le _ _) h.1,
        fun h' => by have : s.writers - 1 = 1 := h'; have := h.1; omega⟩
  | closeRO =>
    rw [lockStep]
    by_cases hc : s.readers = 0
    · rw [if_pos hc]; exact h
    · rw [if_neg hc]
      exact ⟨h.1, fun h' => by have := h.2 h'; show s.readers - 1 = 0; omega⟩

theorem lockRun_inv (s : LockSt) (ops : List LockOp) (h : LockInv s) : LockInv (lockRun true s ops) := by
  induction ops generalizing s with
  | nil => exact h
  | cons op rest ih => exact ih _ (lockStep_inv s op h)

theorem readers_admit_readers (s : LockSt) (hw : s.writers = 0) (hr : 0 < s.readers) :
    (lockStep true s (.openRW false)).2 = .locked ∧ (lockStep true s (.openRO false)).2 = .ok := by
  unfold lockStep
  have : ¬ s.readers = 0 := Nat.ne_of_gt hr
  simp [hw, this]

end Klev
