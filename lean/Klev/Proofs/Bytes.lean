/-
Big-endian round trips and the two's-complement views (`Klev/Bytes.lean`).
-/
import Klev.Bytes
namespace Klev

theorem be_length (k x : Nat) : (be k x).length = k := by
  induction k with
  | zero => rfl
  | succ k ih => simp [be, ih]

theorem unbe_foldl (bs : List UInt8) (acc : Nat) :
    bs.foldl (fun acc b => acc * 256 + b.toNat) acc = acc * 256 ^ bs.length + unbe bs := by
  induction bs generalizing acc with
  | nil => simp [unbe]
  | cons b bs ih =>
    simp only [List.foldl_cons, List.length_cons, unbe]
    rw [ih, ih (0 * 256 + b.toNat), Nat.pow_succ, Nat.add_mul, Nat.add_mul, Nat.mul_assoc,
      Nat.mul_comm (256 ^ bs.length) 256]
    simp [Nat.add_assoc]

theorem unbe_nil : unbe [] = 0 := rfl

theorem unbe_cons (b : UInt8) (bs : List UInt8) :
    unbe (b :: bs) = b.toNat * 256 ^ bs.length + unbe bs := by
  have := unbe_foldl bs (0 * 256 + b.toNat)
  simpa [unbe] using this

theorem unbe_append (a b : List UInt8) : unbe (a ++ b) = unbe a * 256 ^ b.length + unbe b := by
  show (a ++ b).foldl _ 0 = _
  rw [List.foldl_append, unbe_foldl b]
  rfl

theorem unbe_lt (bs : List UInt8) : unbe bs < 256 ^ bs.length := by
  induction bs with
  | nil => simp [unbe]
  | cons b bs ih =>
    rw [unbe_cons, List.length_cons, Nat.pow_succ]
    have hb : b.toNat < 256 := b.toNat_lt
    have h1 : b.toNat * 256 ^ bs.length ≤ 255 * 256 ^ bs.length :=
      Nat.mul_le_mul_right _ (Nat.le_of_lt_succ hb)
    omega

theorem unbe_be_mod (k x : Nat) : unbe (be k x) = x % 256 ^ k := by
  induction k with
  | zero => simp [be, unbe, Nat.mod_one]
  | succ k ih =>
    rw [be, unbe_cons, ih, be_length, UInt8.toNat_ofNat_of_lt' (Nat.mod_lt _ (by decide : 0 < 256)),
      Nat.mod_pow_succ, Nat.mul_comm, Nat.add_comm]

theorem unbe_be (k x : Nat) (h : x < 256 ^ k) : unbe (be k x) = x := by
  rw [unbe_be_mod, Nat.mod_eq_of_lt h]

theorem u64_lt (x : Int) : u64 x < two64 := by
  unfold u64 two64
  omega

theorem i64_u64 (x : Int) (h1 : -(two63 : Int) ≤ x) (h2 : x < (two63 : Int)) :
    i64 (u64 x) = x := by
  unfold i64 u64 two63 two64 at *
  split <;> omega

theorem i32_nat (n : Nat) (h : n < two31) : i32 n = n := by
  simp [i32, h]

end Klev

#print axioms Klev.be_length
#print axioms Klev.unbe_be
#print axioms Klev.unbe_append
#print axioms Klev.i64_u64
#print axioms Klev.u64_lt
#print axioms Klev.i32_nat
