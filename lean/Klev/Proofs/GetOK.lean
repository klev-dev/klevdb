/-
`Log.get` satisfies the L0 relation `GetOK` on every log that satisfies the invariant —
the refinement theorem for C04.
-/
import Klev.Proofs.ReadInv
namespace Klev

/-- What `reader.Get` returns on a consistent segment, in terms of its records; without a
record at `off` the error says on which side of the records the offset lies. -/
def readerGetSpec (c : RCtx) (recs : List Msg) (off : Int) : ROut Msg :=
  if off = offsetOldest then
    (match recs.head? with
     | some f => .ok f
     | none => .ierr .empty)
  else if off = offsetNewest then
    (match recs.getLast? with
     | some la => .ok la
     | none => .ierr .empty)
  else match recs.find? (fun x => decide (x.off = off)) with
    | some m => .ok m
    | none => match recs.head?, recs.getLast? with
      | some f, some la =>
        if off < f.off then .ierr .beforeStart
        else if la.off < off then
          (if c.head = true ∧ off ≥ c.nextOff then .invalid else .ierr .afterEnd)
        else .ierr .notFound
      | _, _ => .ierr .empty

theorem readerGet_spec (c : RCtx) (s : Seg) (its : List Item) (off : Int)
    (hit : ItemsFor s.ver s.recs its) (hs : s.recs.Pairwise (fun a b => a.off < b.off)) :
    readerGet c s its off = readerGetSpec c s.recs off := by
  have hall := hit.names
  unfold readerGet ixGet readerGetSpec
  rw [Index.get_eq_spec its off (hit.sorted hs)]
  unfold Index.getSpec
  rcases hall.ends with ⟨h1, h2⟩ | ⟨a, f, b, la, ha, hf, ⟨hrf, haf⟩, hb, hla, hrl, hbl⟩
  · simp [h1, h2]
  · simp only [ha, hf, hb, hla, haf, hbl]
    by_cases c1 : off = offsetOldest
    · simp [c1, hrf]
    rw [if_neg c1, if_neg c1]
    by_cases c2 : off = offsetNewest
    · simp [c2, hrl]
    rw [if_neg c2, if_neg c2]
    -- the index holds an item with the offset exactly when the records hold one
    have hfind := hall.find? (p := fun x => x.off == off) (q := fun m => decide (m.off = off))
      (fun x m hxm => by rw [hxm.2]; exact Bool.beq_eq_decide_eq _ _)
    cases hfd : its.find? (fun x => x.off == off) with
    | some it =>
      rw [hfd] at hfind
      obtain ⟨m, hfm, hrm, _⟩ := hfind
      -- a record with offset `off` lies between the first and the last
      have hm := List.mem_of_find?_eq_some hfm
      have hmo : m.off = off := by simpa using List.find?_some hfm
      have hsle := hs.imp Int.le_of_lt
      have h3 : ¬ off < f.off := by
        rw [← hmo]; exact Int.not_lt.mpr (pairwise_head?_le (key := Msg.off) hsle hf m hm)
      have h5 : ¬ off > la.off := by
        rw [← hmo]; exact Int.not_lt.mpr (pairwise_le_getLast (key := Msg.off) hsle hla m hm)
      simp [h3, h5, hfm, hrm]
    | none =>
      rw [hfd] at hfind
      rw [hfind]
      dsimp only
      by_cases c3 : off < f.off
      · simp [c3]
      by_cases c5 : off > la.off
      · by_cases hc : c.head = true ∧ off ≥ c.nextOff <;> simp [c3, c5, hc]
      · simp [c3, c5]

theorem get_oldest (l : Log) (hinv : Inv l) :
    (l.get offsetOldest).2 =
      match (abs l).live.head? with
      | some m => .ok m
      | none => .err .invalidOffset := by
  have hsh := hinv.shape
  have hpos : 0 < l.segs.length := List.length_pos_iff.mpr hinv.segs_ne
  obtain ⟨l1, s, its, c, hw, _, hr⟩ := withIndex_read l hinv 0 hpos
  simp only [Log.get, SegSearch.get_oldest _ (bases_ne hinv), Int.toNat_zero, hw]
  rw [readerGet_spec c s its _ hr.items (hr.sorted hsh), readerGetSpec, if_pos rfl,
    abs_live, hsh.head?_flat, ← hr.recs]
  cases s.recs.head? <;> simp [ROut.toOut, offsetOldest, offsetNewest]

/-- The last live message is the last record of the head, or of the segment before an empty
head. -/
theorem get_newest (l : Log) (hinv : Inv l) :
    (l.get offsetNewest).2 =
      match (abs l).live.getLast? with
      | some m => .ok m
      | none => .err .invalidOffset := by
  have hsh := hinv.shape
  have hlen := shape_length l.segs
  obtain ⟨n, hn⟩ := segs_length_succ hinv
  have c1 : ¬ offsetNewest = offsetOldest := by decide
  obtain ⟨l1, s, its, c, hw, hl1, hr⟩ := withIndex_read l hinv n (hn ▸ Nat.lt_succ_self n)
  have hflat := flat_take_last _ hsh.ne
  simp only [hlen, hn, Nat.add_sub_cancel] at hflat
  simp only [Log.get, get_newest_seg hinv hn, Int.toNat_natCast, hw]
  rw [readerGet_spec c s its _ hr.items (hr.sorted hsh), readerGetSpec, if_neg c1, if_pos rfl,
    abs_live, hflat, List.getLast?_append, ← hr.recs]
  cases hla : s.recs.getLast? with
  | some la => simp [ROut.toOut]
  | none =>
    simp only [Option.none_or, true_and]
    cases n with
    | zero => simp [flat]
    | succ k =>
      have hk : k + 1 < (shape l.segs).length := by rw [hlen, hn]; exact Nat.lt_succ_self _
      obtain ⟨l2, s2, its2, c2, hw2, _, hr2⟩ :=
        withIndex_read l1 hl1.inv k (by rw [hl1.len, ← hlen]; exact Nat.lt_of_succ_lt hk)
      rw [hl1.shape] at hr2
      simp only [Nat.zero_lt_succ, if_true, Nat.add_sub_cancel, hw2]
      rw [readerGet_spec c2 s2 its2 _ hr2.items (hr2.sorted hsh), readerGetSpec, if_neg c1,
        if_pos rfl, hsh.getLast?_flat_take k hk, ← hr2.recs]
      cases s2.recs.getLast? <;> simp [ROut.toOut, ierrClass]

theorem get_neg (l : Log) (hinv : Inv l) {off : Int} (hneg : off < 0)
    (c1 : off ≠ offsetOldest) (c2 : off ≠ offsetNewest) : ∃ e, (l.get off).2 = .err e := by
  have hsh := hinv.shape
  unfold Log.get
  rcases SegSearch.get_spec (bases l) off (by rw [bases_eq_shape]; exact hsh.sortedB)
    (bases_ne hinv) c1 c2 with ⟨h0, _, hres⟩ | ⟨i, _, hseg⟩
  · by_cases hz : (bases l)[0] = 0
    · rw [hres, if_pos hz]; exact ⟨_, rfl⟩
    · rw [hres, if_neg hz]; exact ⟨_, rfl⟩
  · rw [bases_eq_shape] at hseg
    obtain ⟨hi, hble, _⟩ := hseg
    simp only [List.getElem_map, List.length_map] at hble hi
    have := hsh.base0 _ (List.getElem_mem hi)
    exact absurd (Int.le_trans this hble) (Int.not_le.mpr hneg)

theorem get_plain (l : Log) (hinv : Inv l) {off : Int} (h0 : 0 ≤ off) :
    (l.get off).2 =
      match (abs l).live.find? (fun m => decide (m.off = off)) with
      | some m => .ok m
      | none => if off < (abs l).next then .err .notFound else .err .invalidOffset := by
  have hsh := hinv.shape
  have hlen := shape_length l.segs
  have hpos : 0 < (shape l.segs).length := List.length_pos_iff.mpr hsh.ne
  have c1 : off ≠ offsetOldest := by simp only [offsetOldest]; omega
  have c2 : off ≠ offsetNewest := by simp only [offsetNewest]; omega
  rcases SegSearch.get_spec (bases l) off (by rw [bases_eq_shape]; exact hsh.sortedB)
    (bases_ne hinv) c1 c2 with ⟨hb, hlt, hres⟩ | ⟨i, hres, hseg⟩
  · -- before the first base: below every live message
    simp only [bases_eq_shape, List.getElem_map] at hlt hres
    have hnone : (flat (shape l.segs)).find? (fun x => decide (x.off = off)) = none := by
      rw [find_flat hsh (SegStart.first hsh fun _ => Int.le_of_lt hlt), List.find?_eq_none]
      intro m hm
      have := hsh.lower _ (List.getElem_mem hpos) m hm
      simp only [decide_eq_true_eq]
      exact Int.ne_of_gt (Int.lt_of_lt_of_le hlt this)
    have hbn := hsh.base_le_next 0 hpos
    have hz := Int.ne_of_gt (Int.lt_of_le_of_lt h0 hlt)
    have : off < (abs l).next := Int.lt_of_lt_of_le hlt hbn
    rw [Log.get, bases_eq_shape, hres, abs_live, hnone]
    simp [hz, this]
  · rw [bases_eq_shape] at hseg
    have hst := SegStart.of_isSegFor hsh hseg
    obtain ⟨_, hble, _⟩ := hseg
    simp only [List.getElem_map] at hble
    obtain ⟨l1, s, its, c, hw, _, hr⟩ := withIndex_read l hinv i (by rw [← hlen]; exact hst.lt)
    have hnext := SegStart.lt_next_iff hsh hst hble
    rw [← abs_next l, ← hr.recs] at hnext
    simp only [Log.get, hres, Int.toNat_natCast, hw]
    rw [readerGet_spec c s its _ hr.items (hr.sorted hsh), readerGetSpec, if_neg c1, if_neg c2,
      abs_live, find_flat hsh hst, ← hr.recs]
    cases hfd : s.recs.find? (fun x => decide (x.off = off)) with
    | some m => simp [ROut.toOut]
    | none =>
      dsimp only
      cases hh : s.recs.head? with
      | none =>
        -- an empty segment is the head, and its base is the next offset
        have hre := List.head?_eq_none_iff.mp hh
        have hlast : ¬ i + 1 < (shape l.segs).length := fun h =>
          hsh.nonempty_idx i h (hr.recs ▸ hre)
        have : ¬ off < (abs l).next := by rw [hnext, hre]; simp [hlast]
        simp [this, c2]
      | some f =>
        have hre : s.recs ≠ [] := fun he => by rw [he] at hh; simp at hh
        obtain ⟨la, hla⟩ : ∃ la, s.recs.getLast? = some la :=
          ⟨_, List.getLast?_eq_some_getLast hre⟩
        rw [hla]
        dsimp only
        by_cases c3 : off < f.off
        · -- a hole at the start of the segment
          have : off < (abs l).next :=
            hnext.2 (Or.inr ⟨f, List.mem_of_mem_head? hh, Int.le_of_lt c3⟩)
          simp [c3, this, ROut.toOut, ierrClass]
        by_cases c5 : la.off < off
        · -- beyond the last record: a deleted tail in a reader segment, not yet assigned at
          -- the head
          have hall : ¬ ∃ m ∈ s.recs, off ≤ m.off := by
            rintro ⟨m, hm, h⟩
            have hle := pairwise_le_getLast (key := Msg.off)
              ((hr.sorted hsh).imp Int.le_of_lt) hla m hm
            exact Int.not_lt.mpr (Int.le_trans h hle) c5
          by_cases hlast : i + 1 < (shape l.segs).length
          · have hch := hr.head_of_lt hlast
            have : off < (abs l).next := hnext.2 (Or.inl hlast)
            rw [hlen] at hlast
            simp [c3, c5, hch, hlast, this]
          · have : ¬ off < (abs l).next := by rw [hnext]; simp [hlast, hall]
            rw [hlen] at hlast
            by_cases hc : c.head = true ∧ off ≥ c.nextOff <;>
              simp [c3, c5, this, hc, hlast, ROut.toOut]
        · -- a hole inside the segment
          have : off < (abs l).next :=
            hnext.2 (Or.inr ⟨la, List.mem_of_getLast? hla, Int.not_lt.mp c5⟩)
          simp [c3, c5, this, ROut.toOut, ierrClass]

/-- **C04 refinement**: the message `Get` addresses, as the L0 state sees it. -/
theorem get_ok (l : Log) (hinv : Inv l) (off : Int) :
    Spec.GetOK (abs l) off (l.get off).2 := by
  unfold Spec.GetOK
  by_cases c1 : off = offsetOldest
  · subst c1
    rw [if_pos rfl, get_oldest l hinv]
    cases (abs l).live.head? <;> rfl
  by_cases c2 : off = offsetNewest
  · subst c2
    rw [if_neg c1, if_pos rfl, get_newest l hinv]
    cases (abs l).live.getLast? <;> rfl
  rw [if_neg c1, if_neg c2]
  by_cases hneg : off < 0
  · obtain ⟨e, he⟩ := get_neg l hinv hneg c1 c2
    rw [if_pos hneg, he]
    trivial
  · rw [if_neg hneg, get_plain l hinv (Int.not_lt.mp hneg)]
    cases (abs l).live.find? (fun m => decide (m.off = off))
    · simp only
      split <;> rfl
    · rfl

end Klev
