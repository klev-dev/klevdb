/-
The literal binary searches of `pkg/index` meet their declarative meaning on every
sorted array and every offset: exact match (`Index.get`), lower bound (`Index.consume`),
lower bound on timestamps (`Index.time`). The spec functions have no `diverged` outcome;
where `consumeSpec` writes `panic` (a failing `find?`), `Index.consume_lowerBound` shows it is not reached.
-/
import Klev.Proofs.LowerBound
namespace Klev

def SortedOff (items : List Item) : Prop := items.Pairwise (fun a b => a.off < b.off)

def SortedTs (items : List Item) : Prop := items.Pairwise (fun a b => a.ts ≤ b.ts)

theorem SortedOff.le {items : List Item} (h : SortedOff items) :
    items.Pairwise (fun a b => a.off ≤ b.off) := h.imp (fun h => Int.le_of_lt h)

theorem head?_eq_getElem {α : Type} {l : List α} {x : α} (h : l.head? = some x) :
    ∃ h0 : 0 < l.length, l[0] = x :=
  List.getElem?_eq_some_iff.mp (List.head?_eq_getElem? ▸ h)

theorem getLast?_eq_getElem {α : Type} {l : List α} {x : α} (h : l.getLast? = some x) :
    ∃ h0 : l.length - 1 < l.length, l[l.length - 1] = x :=
  List.getElem?_eq_some_iff.mp (List.getLast?_eq_getElem? ▸ h)

/-- What `index.Get` means. -/
def Index.getSpec (items : List Item) (off : Int) : IRes Int :=
  match items.head?, items.getLast? with
  | some first, some last =>
    if off = offsetOldest then .ok first.pos
    else if off = offsetNewest then .ok last.pos
    else if off < first.off then .error .beforeStart
    else if off > last.off then .error .afterEnd
    else match items.find? (fun x => x.off == off) with
      | some it => .ok it.pos
      | none => .error .notFound
  | _, _ => .error .empty

theorem Index.getLoop_eq (items : List Item) (off : Int) (hs : SortedOff items) (fuel : Nat) :
    ∀ (b e : Int), Window Item.off items off fuel b e →
      Index.getLoop items off fuel b e =
        match items.find? (fun x => x.off == off) with
        | some it => .ok it.pos
        | none => .error .notFound := by
  induction fuel with
  | zero => exact fun b e w => absurd w.fuel_pos (Nat.lt_irrefl 0)
  | succ fuel ih =>
    intro b e w
    rw [Index.getLoop]
    by_cases hle : b ≤ e
    · obtain ⟨m, hm, hml, hbm, hme⟩ := w.mid hle
      simp only [hle, if_true, hm, getI_natCast items hml]
      by_cases h1 : items[m].off < off
      · rw [if_pos h1]
        exact ih _ _ (w.left hs.le hml hbm h1)
      · by_cases h2 : items[m].off > off
        · rw [if_neg h1, if_pos h2]
          exact ih _ _ (w.right hs.le hml hme h2)
        · rw [if_neg h1, if_neg h2, find?_key_eq_some (key := Item.off) hs hml
            (Int.le_antisymm (Int.not_lt.mp h2) (Int.not_lt.mp h1))]
    · rw [if_neg hle, find?_key_eq_none (key := Item.off) hs.le
        (Nat.le_of_eq (w.empty (Int.not_le.mp hle)).2)]

/-- `index.Get` is exact-match lookup, for every sorted array and every offset. -/
theorem Index.get_eq_spec (items : List Item) (off : Int) (hs : SortedOff items) :
    Index.get items off = Index.getSpec items off := by
  unfold Index.get Index.getSpec
  cases hh : items.head? with
  | none => simp
  | some first =>
    cases hl : items.getLast? with
    | none => simp
    | some last =>
      obtain ⟨h0, rfl⟩ := head?_eq_getElem hh
      obtain ⟨hn, rfl⟩ := getLast?_eq_getElem hl
      have hfl := key_le_of_le (key := Item.off) hs.le (Nat.zero_le _) hn
      -- the checks both sides make alike are peeled off together
      refine ite_congr rfl (fun _ => rfl) fun _ => ?_
      refine ite_congr rfl (fun _ => rfl) fun _ => ?_
      refine ite_congr rfl (fun _ => rfl) fun _ => ?_
      -- `c`k (`h`k): the k-th test of the Go function, here and in the read proofs
      by_cases c4 : off = items[0].off
      · subst c4
        rw [if_pos rfl, if_neg (Int.not_lt.mpr hfl), find?_key_eq_some (key := Item.off) hs h0 rfl]
      rw [if_neg c4]
      refine ite_congr rfl (fun _ => rfl) fun _ => ?_
      by_cases c6 : off = items[items.length - 1].off
      · subst c6
        rw [if_pos rfl, find?_key_eq_some (key := Item.off) hs hn rfl]
      rw [if_neg c6]
      exact Index.getLoop_eq items off hs _ _ _ (Window.init off)

/-- What `index.Consume` means: the position of the first item whose offset is not below
the requested one, and the position of the last item. -/
def Index.consumeSpec (items : List Item) (off : Int) : IRes (Int × Int) :=
  match items.head?, items.getLast? with
  | some first, some last =>
    if off = offsetOldest then .ok (first.pos, last.pos)
    else if off = offsetNewest then .ok (last.pos, last.pos)
    else if off > last.off then .error .afterEnd
    else match items.find? (fun x => decide (off ≤ x.off)) with
      | some it => .ok (it.pos, last.pos)
      | none => .error .panic
  | _, _ => .error .empty

theorem Index.consumeLoop_eq (items : List Item) (off endPos : Int) (hs : SortedOff items)
    (hlb : lowerBound Item.off items off < items.length) (fuel : Nat) :
    ∀ (b e : Int), Window Item.off items off fuel b e →
      Index.consumeLoop items off endPos fuel b e =
        .ok (items[lowerBound Item.off items off].pos, endPos) := by
  induction fuel with
  | zero => exact fun b e w => absurd w.fuel_pos (Nat.lt_irrefl 0)
  | succ fuel ih =>
    intro b e w
    rw [Index.consumeLoop]
    by_cases hle : b ≤ e
    · obtain ⟨m, hm, hml, hbm, hme⟩ := w.mid hle
      simp only [hle, if_true, hm, getI_natCast items hml]
      by_cases h1 : items[m].off < off
      · rw [if_pos h1]
        exact ih _ _ (w.left hs.le hml hbm h1)
      · by_cases h2 : items[m].off > off
        · rw [if_neg h1, if_pos h2]
          exact ih _ _ (w.right hs.le hml hme h2)
        · have heq : items[m].off = off := Int.le_antisymm (Int.not_lt.mp h2) (Int.not_lt.mp h1)
          simp only [h1, h2, if_false, (lowerBound_of_key_eq (key := Item.off) hs hml heq).1]
    · rw [if_neg hle, (w.empty (Int.not_le.mp hle)).1, getI_natCast items hlb]

/-- `index.Consume` is lower-bound search, for every sorted array and every offset. -/
theorem Index.consume_eq_spec (items : List Item) (off : Int) (hs : SortedOff items) :
    Index.consume items off = Index.consumeSpec items off := by
  unfold Index.consume Index.consumeSpec
  cases hh : items.head? with
  | none => simp
  | some first =>
    cases hl : items.getLast? with
    | none => simp
    | some last =>
      obtain ⟨h0, rfl⟩ := head?_eq_getElem hh
      obtain ⟨hn, rfl⟩ := getLast?_eq_getElem hl
      have hfl := key_le_of_le (key := Item.off) hs.le (Nat.zero_le _) hn
      refine ite_congr rfl (fun _ => rfl) fun _ => ?_
      refine ite_congr rfl (fun _ => rfl) fun _ => ?_
      by_cases c5 : off > items[items.length - 1].off
      · rw [if_neg (Int.not_le.mpr (Int.lt_of_le_of_lt hfl c5)), if_pos c5, if_pos c5]
      have hlb : lowerBound Item.off items off < items.length :=
        Nat.lt_of_le_of_lt (lowerBound_le_of_le (key := Item.off) hn (Int.not_lt.mp c5)) hn
      rw [if_neg c5, if_neg c5, find?_le_eq (key := Item.off), List.getElem?_eq_getElem hlb]
      by_cases c3 : off ≤ items[0].off
      · simp only [if_pos c3, Nat.le_zero.mp (lowerBound_le_of_le (key := Item.off) h0 c3)]
      by_cases c6 : off = items[items.length - 1].off
      · subst c6
        simp only [if_neg c3, if_pos, (lowerBound_of_key_eq (key := Item.off) hs hn rfl).1]
      rw [if_neg c3, if_neg c6]
      exact Index.consumeLoop_eq items off _ hs hlb _ _ _ (Window.init off)

theorem Index.consume_lowerBound (its : List Item) (off : Int) (hs : SortedOff its)
    (h0 : ∀ it ∈ its, 0 ≤ it.off) (hn : off ≠ offsetNewest) :
    Index.consume its off =
      match its[lowerBound Item.off its off]?, its.getLast? with
      | some it, some last => .ok (it.pos, last.pos)
      | _, _ => .error (if its = [] then .empty else .afterEnd) := by
  rw [Index.consume_eq_spec its off hs]
  unfold Index.consumeSpec
  cases hl : its.getLast? with
  | none =>
    rw [List.getLast?_eq_none_iff.mp hl]
    rfl
  | some last =>
    obtain ⟨hnl, hlast⟩ := getLast?_eq_getElem hl
    have hpos : 0 < its.length := Nat.zero_lt_of_lt hnl
    have hne : its ≠ [] := List.ne_nil_of_length_pos hpos
    rw [List.head?_eq_getElem?, List.getElem?_eq_getElem hpos]
    dsimp only
    by_cases h1 : off = offsetOldest
    · subst h1
      have hk : lowerBound Item.off its offsetOldest = 0 := by
        have := h0 _ (List.getElem_mem hpos)
        exact Nat.le_zero.mp (lowerBound_le_of_le (key := Item.off) hpos
          (Int.le_trans (by decide : offsetOldest ≤ 0) this))
      rw [if_pos rfl, hk, List.getElem?_eq_getElem hpos]
    · rw [if_neg h1, if_neg hn]
      by_cases hgt : off > last.off
      · have hk : its.length ≤ lowerBound Item.off its off :=
          Nat.le_of_pred_lt ((lt_lowerBound_iff (key := Item.off) hs.le (x := off) hnl).mpr
            (by rw [hlast]; exact hgt))
        simp only [hgt, if_true, List.getElem?_eq_none hk, hne, if_false]
      · have hk := Nat.lt_of_le_of_lt (lowerBound_le_of_le (key := Item.off) (x := off) hnl
          (by rw [hlast]; exact Int.not_lt.mp hgt)) hnl
        simp only [hgt, if_false, find?_le_eq (key := Item.off), List.getElem?_eq_getElem hk]

theorem Index.sortSearch_eq (items : List Item) (ts : Int) (hs : SortedTs items) (fuel : Nat) :
    ∀ (i j : Nat), i ≤ lowerBound Item.ts items ts → lowerBound Item.ts items ts ≤ j →
      j ≤ items.length → j < i + fuel →
      Index.sortSearch items ts fuel i j = lowerBound Item.ts items ts := by
  induction fuel with
  | zero => intro i j _ _ _ hf; omega
  | succ fuel ih =>
    intro i j hi hj hn hf
    rw [Index.sortSearch]
    by_cases hlt : i < j
    · obtain ⟨hih, hhj⟩ := mid_bounds hlt
      rw [if_pos hlt]
      generalize (i + j) / 2 = h at hih hhj ⊢
      have hh : h < items.length := Nat.lt_of_lt_of_le hhj hn
      have hiff := lt_lowerBound_iff (key := Item.ts) hs (x := ts) hh
      simp only [List.getElem?_eq_getElem hh]
      by_cases hc : items[h].ts ≥ ts
      · rw [if_neg (not_not_intro hc)]
        exact ih _ _ hi (Nat.le_of_not_lt (mt hiff.mp (Int.not_lt.mpr hc))) (Nat.le_of_lt hh)
          (by omega)
      · rw [if_pos hc]
        exact ih _ _ (hiff.mpr (Int.not_le.mp hc)) hj hn (by omega)
    · rw [if_neg hlt]
      omega

/-- What `index.Time` means: the position of the first item whose timestamp is not before `ts`. -/
def Index.timeSpec (items : List Item) (ts : Int) : IRes Int :=
  match items.head?, items.getLast? with
  | some first, some last =>
    if ts < first.ts then .error .timeBefore
    else if last.ts < ts then .error .timeAfter
    else match items.find? (fun x => decide (ts ≤ x.ts)) with
      | some it => .ok it.pos
      | none => .error .panic
  | _, _ => .error .timeEmpty

/-- `index.Time` is lower-bound search on timestamps, for every array with non-decreasing
timestamps and every time. -/
theorem Index.time_eq_spec (items : List Item) (ts : Int) (hs : SortedTs items) :
    Index.time items ts = Index.timeSpec items ts := by
  unfold Index.time Index.timeSpec
  cases hh : items.head? with
  | none => simp
  | some first =>
    cases hl : items.getLast? with
    | none => simp
    | some last =>
      obtain ⟨h0, rfl⟩ := head?_eq_getElem hh
      obtain ⟨hn, rfl⟩ := getLast?_eq_getElem hl
      have hfl := key_le_of_le (key := Item.ts) hs (Nat.zero_le _) hn
      refine ite_congr rfl (fun _ => rfl) fun _ => ?_
      by_cases c3 : items[items.length - 1].ts < ts
      · rw [if_neg (Int.ne_of_gt (Int.lt_of_le_of_lt hfl c3)), if_pos c3, if_pos c3]
      have hlb : lowerBound Item.ts items ts < items.length :=
        Nat.lt_of_le_of_lt (lowerBound_le_of_le (key := Item.ts) hn (Int.not_lt.mp c3)) hn
      rw [if_neg c3, if_neg c3, find?_le_eq (key := Item.ts), List.getElem?_eq_getElem hlb]
      by_cases c2 : ts = items[0].ts
      · simp only [if_pos c2,
          Nat.le_zero.mp (lowerBound_le_of_le (key := Item.ts) h0 (Int.le_of_eq c2))]
      rw [if_neg c2, Index.sortSearch_eq items ts hs (items.length + 1) 0 items.length
        (Nat.zero_le _) (lowerBound_le_length ts) (Nat.le_refl _) (by omega),
        getI_natCast items hlb]

end Klev
