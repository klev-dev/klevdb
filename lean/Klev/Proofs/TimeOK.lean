/-
`Log.getByTime` satisfies the L0 relation `GetByTimeOK` on every log that satisfies the
invariant, whose indexes carry the times of their records (`TimesInv`), whose message
times never decrease (`Spec.Monotone`) and whose segments start at their base offset
(`FirstAtBase`) — the refinement theorem for C10.
-/
import Klev.Proofs.GetOK
namespace Klev

def TimesFor (recs : List Msg) (its : List Item) : Prop :=
  its.map (·.ts) = recs.map (·.time)

def TimesInv (l : Log) : Prop :=
  ∀ s ∈ l.segs, (∀ its, s.mem = some its → TimesFor s.recs its) ∧
    (∀ f, s.idxf = some f → TimesFor s.recs f.items)

def FirstAtBase (l : Log) : Prop :=
  ∀ s ∈ l.segs, ∀ m, s.recs.head? = some m → m.off = s.base

theorem deriveFrom_times (p : Params) (hp : p.times = true) : ∀ (ts : Int) (L : List (Int × Msg)),
    (∀ pm ∈ L, ts ≤ pm.2.time) → L.Pairwise (fun a b => a.2.time ≤ b.2.time) →
    (deriveFrom p ts L).map (·.ts) = L.map (fun pm => pm.2.time) := by
  intro ts L
  induction L generalizing ts with
  | nil => intro _ _; rfl
  | cons pm rest ih =>
    intro hge hpw
    obtain ⟨pos, m⟩ := pm
    have hpc := List.pairwise_cons.mp hpw
    have hm : ts ≤ m.time := hge (pos, m) (by simp)
    have hts : (newItem p m pos ts).ts = m.time := by
      simp only [newItem, hp, if_true]
      exact Int.max_eq_left hm
    simp only [deriveFrom, List.map_cons, hts]
    rw [ih m.time (fun pm h => hpc.1 pm h) hpc.2]

/-- `indexTime` is a running maximum that starts at 0, so it is the record time only while
the record times are non-negative and never decrease. -/
theorem derive_timesFor (p : Params) (v : Ver) (recs : List Msg) (hp : p.times = true)
    (hmono : recs.Pairwise (fun a b => a.time ≤ b.time)) (h0 : ∀ m ∈ recs, 0 ≤ m.time) :
    TimesFor recs (derive p v recs) := by
  unfold TimesFor derive
  rw [deriveFrom_times p hp]
  · have := congrArg (List.map (fun m : Msg => m.time)) (layout_map_snd v recs)
    simpa [List.map_map, Function.comp_def] using this
  · intro pm hpm
    apply h0
    rw [← layout_map_snd v recs]
    exact List.mem_map_of_mem hpm
  · rw [← layout_map_snd v recs] at hmono
    exact (List.pairwise_map (R := fun a b : Msg => a.time ≤ b.time)).mp hmono

theorem seg_times_mono (l : Log) (hm : Spec.Monotone (abs l)) :
    ∀ s ∈ l.segs, s.recs.Pairwise (fun a b => a.time ≤ b.time) ∧ ∀ m ∈ s.recs, 0 ≤ m.time := by
  intro s hs
  obtain ⟨i, hi, rfl⟩ := List.getElem_of_mem hs
  have hsi := shape_getElem l.segs i hi
  have hsub := seg_sublist_flat (shape l.segs) i (by rw [shape_length]; exact hi)
  rw [hsi] at hsub
  obtain ⟨h1, h2⟩ := hm
  rw [abs_live] at h1 h2
  exact ⟨h1.sublist hsub, fun m hmem => h2 m (hsub.subset hmem)⟩

theorem withIndex_times (l : Log) (i : Nat) (ht : TimesInv l) (hp : l.opts.params.times = true)
    (hm : Spec.Monotone (abs l))
    {l1 : Log} {s' : Seg} {its : List Item} {c : RCtx}
    (hw : withIndex l i = some (l1, s', its, c)) : TimesInv l1 ∧ TimesFor s'.recs its :=
  withIndex_P TimesFor l i ht
    (fun s hs => derive_timesFor _ _ _ hp (seg_times_mono l hm s hs).1 (seg_times_mono l hm s hs).2) hw

theorem timesFor_sorted {recs : List Msg} {its : List Item} (ht : TimesFor recs its)
    (hs : recs.Pairwise (fun a b => a.time ≤ b.time)) : SortedTs its := by
  have := (List.pairwise_map (f := fun m : Msg => m.time) (R := fun a b : Int => a ≤ b)).mpr hs
  rw [← ht] at this
  exact List.pairwise_map.mp this

/-- What `reader.GetByTime` returns on a consistent segment, in terms of its records. -/
def readerGetByTimeSpec (recs : List Msg) (t : Int) : ROut Msg :=
  match recs.head?, recs.getLast? with
  | some f, some la =>
    if t < f.time then .ierr .timeBefore
    else if la.time < t then .ierr .timeAfter
    else match recs.find? (fun m => decide (t ≤ m.time)) with
      | some m => .ok m
      | none => .ierr .panic
  | _, _ => .ierr .timeEmpty

theorem readerGetByTime_spec (s : Seg) (its : List Item) (t : Int)
    (hit : ItemsFor s.ver s.recs its) (ht : TimesFor s.recs its)
    (hs : s.recs.Pairwise (fun a b => a.time ≤ b.time)) :
    readerGetByTime s its t = readerGetByTimeSpec s.recs t := by
  have hall := hit.names.and_map ht
  unfold readerGetByTime readerGetByTimeSpec
  rw [Index.time_eq_spec its t (timesFor_sorted ht hs)]
  unfold Index.timeSpec
  rcases hall.ends with ⟨h1, h2⟩ | ⟨a, b, la, lb, ha, hb, ⟨_, hab⟩, hla, hlb, _, hlab⟩
  · rw [h1, h2]
    rfl
  · simp only [ha, hb, hla, hlb, hab, hlab]
    by_cases c1 : t < b.time
    · simp [c1]
    rw [if_neg c1, if_neg c1]
    by_cases c2 : lb.time < t
    · simp [c2]
    rw [if_neg c2, if_neg c2]
    have hf := hall.find? (p := fun x => decide (t ≤ x.ts)) (q := fun m => decide (t ≤ m.time))
      (fun a b hab => by rw [hab.2])
    cases hfd : its.find? (fun x => decide (t ≤ x.ts)) with
    | none => rw [hfd] at hf; rw [hf]
    | some it =>
      rw [hfd] at hf
      obtain ⟨m, hfm, ⟨hrm, _⟩, _⟩ := hf
      simp only [hrm, hfm]

/-- The body of `GetByTimeOK` over the live messages. -/
def TimeRes (live : List Msg) (t : Int) (r : Out Msg) : Prop :=
  match live.find? (fun m => decide (t ≤ m.time)) with
  | some m => r = .ok m
  | none => r = .err .notFound ∨ (live = [] ∧ r = .err .invalidOffset)

structure WalkOK (l : Log) (live : List Msg) (t : Int) (r : Log × Out Msg) : Prop where
  loaded : Loaded l r.1
  times : TimesInv r.1
  res : TimeRes live t r.2

theorem getByTime_go_loads (t : Int) (n : Nat) :
    ∀ (i : Nat) (l : Log), Loads l (Log.getByTime.go t n l i).1 := by
  intro i
  induction i with
  | zero => intro l; rw [Log.getByTime.go.eq_1]; exact .refl l
  | succ i ih =>
    intro l
    rw [Log.getByTime.go.eq_2]
    refine Loads.load (.refl l) fun l1 _ _ _ => ?_
    split
    · split
      · exact ih l1
      · exact .refl l1
    · split
      · exact .refl l1
      · exact ih l1
    · split
      · exact .refl l1
      · exact ih l1
    · split
      · refine Loads.load (.refl l1) fun l2 _ _ _ => ?_
        split <;> exact .refl l2
      · exact .refl l1
    · exact .refl l1

theorem getByTime_loads (l : Log) (t : Int) : Loads l (l.getByTime t).1 := by
  unfold Log.getByTime
  split
  · exact .refl l
  · exact getByTime_go_loads t _ _ l

theorem timeRes_cut {X Y : List Msg} {t : Int} {r : Out Msg} (hX : ∀ a ∈ X, a.time < t)
    (hY : ∀ b ∈ Y, t ≤ b.time)
    (hr : match Y.head? with
      | some m => r = .ok m
      | none => r = .err .notFound) :
    TimeRes (X ++ Y) t r := by
  have hfind : (X ++ Y).find? (fun m => decide (t ≤ m.time)) = Y.head? := by
    rw [List.find?_append, List.find?_eq_none.mpr (fun a ha => by
      simp only [decide_eq_true_eq]; exact Int.not_le.mpr (hX a ha)), Option.none_or]
    cases Y with
    | nil => rfl
    | cons b bs => simp [hY b (by simp)]
  unfold TimeRes
  rw [hfind]
  revert hr
  cases Y.head? with
  | none => exact Or.inl
  | some m => exact id

theorem timeRes_hit {A R B : List Msg} {t : Int} {m : Msg} (hA : ∀ a ∈ A, a.time < t)
    (hR : R.find? (fun m => decide (t ≤ m.time)) = some m) : TimeRes (A ++ R ++ B) t (.ok m) := by
  unfold TimeRes
  rw [List.append_assoc, List.find?_append, List.find?_eq_none.mpr (fun a ha => by
    simp only [decide_eq_true_eq]; exact Int.not_le.mpr (hA a ha)), Option.none_or,
    List.find?_append, hR]
  rfl

/-- `FirstAtBase` is a property of the shape. -/
def FirstAtBaseSh (sh : Shape) : Prop := ∀ br ∈ sh, ∀ m, br.2.head? = some m → m.off = br.1

theorem FirstAtBase.toShape {l : Log} (h : FirstAtBase l) : FirstAtBaseSh (shape l.segs) := by
  intro br hbr m hm
  unfold shape at hbr
  rw [List.mem_map] at hbr
  obtain ⟨s, hs, rfl⟩ := hbr
  exact h s hs m hm

theorem getByTime_walk (t : Int) (sh : Shape) (hmono : Spec.Monotone (absShape sh))
    (hfab : FirstAtBaseSh sh) : ∀ (i : Nat) (l : Log), Inv l → TimesInv l →
    l.opts.params.times = true → shape l.segs = sh → i < sh.length →
    (∀ m ∈ flat (sh.drop (i + 1)), t ≤ m.time) →
    TimeRes (flat sh) t (Log.getByTime.go t sh.length l (i + 1)).2 := by
  intro i
  induction i using Nat.strongRecOn with
  | _ i ih =>
  intro l hinv ht hp hshl hi hQ
  subst hshl
  have hshok : ShapeOK (shape l.segs) := hinv.shape
  have hlen : (shape l.segs).length = l.segs.length := shape_length l.segs
  obtain ⟨l1, s, its, c, hw, hl1, hr⟩ := withIndex_read l hinv i (hlen ▸ hi)
  obtain ⟨ht1, htf⟩ := withIndex_times l i ht hp hmono hw
  -- live = older ++ this segment ++ newer, with non-decreasing times throughout
  have hsplit := flat_split (shape l.segs) i hi
  rw [← hr.recs] at hsplit
  have hpw : (flat (shape l.segs)).Pairwise (fun a b => a.time ≤ b.time) := hmono.1
  rw [hsplit] at hpw
  obtain ⟨hpw1, _, _⟩ := List.pairwise_append.mp hpw
  obtain ⟨_, hRs, hAR⟩ := List.pairwise_append.mp hpw1
  have hrest : (∀ m ∈ s.recs, t ≤ m.time) →
      ∀ m ∈ flat ((shape l.segs).drop i), t ≤ m.time := by
    intro hall m hm
    rw [flat_drop_cons _ _ hi, ← hr.recs] at hm
    rcases List.mem_append.mp hm with h | h
    · exact hall m h
    · exact hQ m h
  -- once every record here is at or after `t`, the older segments decide
  have recurse : (∀ m ∈ s.recs, t ≤ m.time) → i ≠ 0 →
      TimeRes (flat (shape l.segs)) t (Log.getByTime.go t (shape l.segs).length l1 i).2 := by
    intro hall hi0
    obtain ⟨j, rfl⟩ := Nat.exists_eq_add_one_of_ne_zero hi0
    exact ih j (Nat.lt_succ_self j) l1 hl1.inv ht1 (by rw [hl1.opts]; exact hp) hl1.shape
      (Nat.lt_of_succ_lt hi) (hrest hall)
  -- at the first segment they are no more: the first record is the answer
  have first : (∀ m ∈ s.recs, t ≤ m.time) → i = 0 → ∀ f, s.recs.head? = some f →
      TimeRes (flat (shape l.segs)) t (.ok f) := by
    intro hall hi0 f hf
    subst hi0
    have := timeRes_cut (X := []) (r := .ok f) (fun _ h => by cases h) (hrest hall)
      (by rw [List.drop_zero, hshok.head?_flat, ← hr.recs, hf])
    simpa using this
  rw [Log.getByTime.go.eq_2, hw]
  dsimp only
  rw [readerGetByTime_spec s its t hr.items htf hRs]
  unfold readerGetByTimeSpec
  cases hR : s.recs with
  | nil =>
    -- an empty segment is the head
    simp only [List.head?_nil]
    have hnone : ∀ m ∈ s.recs, t ≤ m.time := by rw [hR]; intro m hm; cases hm
    by_cases hi0 : i = 0
    · rw [if_pos hi0]
      have hlast : ¬ i + 1 < (shape l.segs).length := fun h =>
        hshok.nonempty_idx i h (by rw [← hr.recs]; exact hR)
      have hflat : flat (shape l.segs) = [] := by
        rw [hsplit, hR, flat_drop_len _ _ (Nat.not_lt.mp hlast), hi0, List.take_zero]; rfl
      unfold TimeRes
      rw [hflat]
      exact Or.inr ⟨rfl, rfl⟩
    · rw [if_neg hi0]
      exact recurse hnone hi0
  | cons f rest =>
    obtain ⟨la, hla⟩ : ∃ la, (f :: rest).getLast? = some la := ⟨_, List.getLast?_cons⟩
    rw [List.head?_cons, hla]
    dsimp only
    have hh : s.recs.head? = some f := by rw [hR]; rfl
    have hfR := pairwise_head?_le (key := Msg.time) hRs hh
    have hlaR := pairwise_le_getLast (key := Msg.time) hRs (hR ▸ hla)
    have hfmem : f ∈ s.recs := List.mem_of_mem_head? hh
    by_cases c1 : t < f.time
    · -- before the first record: the older segments, or the first message of the log
      have hall : ∀ m ∈ s.recs, t ≤ m.time := fun m hm =>
        Int.le_trans (Int.le_of_lt c1) (hfR m hm)
      rw [if_pos c1]
      by_cases hi0 : i = 0
      · simp only [hi0, if_true]
        rw [readerGet_spec c s its offsetOldest hr.items (hr.sorted hshok), readerGetSpec,
          if_pos rfl, hh]
        exact first hall hi0 f hh
      · simp only [hi0, if_false]
        exact recurse hall hi0
    rw [if_neg c1]
    by_cases c2 : la.time < t
    · -- after the last record: the first message of the newer segments
      rw [if_pos c2]
      have hX : ∀ a ∈ flat ((shape l.segs).take i) ++ s.recs, a.time < t := by
        intro a ha
        rcases List.mem_append.mp ha with h | h
        · exact Int.lt_of_le_of_lt (hAR a h la (hR ▸ List.mem_of_getLast? hla)) c2
        · exact Int.lt_of_le_of_lt (hlaR a h) c2
      rw [hsplit]
      refine timeRes_cut hX hQ ?_
      by_cases hnx : i + 1 < (shape l.segs).length
      · rw [if_pos hnx]
        obtain ⟨l2, s2, its2, c2', hw2, _, hr2⟩ :=
          withIndex_read l1 hl1.inv (i + 1) (by rw [hl1.len, ← hlen]; exact hnx)
        rw [hl1.shape] at hr2
        rw [hw2]
        dsimp only
        rw [readerGet_spec c2' s2 its2 offsetOldest hr2.items (hr2.sorted hshok), readerGetSpec,
          if_pos rfl, hshok.head?_flat_drop (i + 1) hnx, ← hr2.recs]
        cases s2.recs.head? <;> rfl
      · rw [if_neg hnx, flat_drop_len _ _ (Nat.not_lt.mp hnx)]
        simp only [List.head?_nil]
    rw [if_neg c2]
    by_cases c3 : t ≤ f.time
    · -- a hit on the first record: an equal timestamp may end the previous segment
      have hall : ∀ m ∈ s.recs, t ≤ m.time := fun m hm => Int.le_trans c3 (hfR m hm)
      have hfb : f.off = s.base := by
        rw [hr.base]
        exact hfab _ (List.getElem_mem hi) f (by rw [← hr.recs]; exact hh)
      simp only [List.find?_cons, c3, decide_true]
      by_cases hi0 : 0 < i
      · rw [if_pos ⟨hi0, hfb⟩]
        exact recurse hall (Nat.ne_of_gt hi0)
      · rw [if_neg fun h => hi0 h.1]
        exact first hall (Nat.eq_zero_of_not_pos hi0) f hh
    · -- a hit inside the segment: everything before it is older
      obtain ⟨m, hfm⟩ := Option.isSome_iff_exists.mp
        (List.find?_isSome (p := fun m : Msg => decide (t ≤ m.time)).mpr
          ⟨la, List.mem_of_getLast? hla, decide_eq_true (Int.not_lt.mp c2)⟩)
      rw [hfm]
      dsimp only
      have hmrest : m ∈ rest := by
        simp only [List.find?_cons, c3, decide_false] at hfm
        exact List.mem_of_find?_eq_some hfm
      have hmne : m.off ≠ s.base := by
        have h1 : f.off < m.off := (List.pairwise_cons.mp (hR ▸ hr.sorted hshok)).1 m hmrest
        have h2 : s.base ≤ f.off := by
          rw [hr.base]
          exact hshok.lower _ (List.getElem_mem hi) f (by rw [← hr.recs]; exact hfmem)
        exact Int.ne_of_gt (Int.lt_of_le_of_lt h2 h1)
      rw [if_neg fun h => hmne h.2, hsplit, hR]
      exact timeRes_hit (fun a ha => Int.lt_of_le_of_lt (hAR a ha f hfmem) (Int.not_le.mp c3)) hfm

theorem getByTime_all (l : Log) (hinv : Inv l) (ht : TimesInv l) (hm : Spec.Monotone (abs l))
    (hfab : FirstAtBase l) (hp : l.opts.params.times = true) (t : Int) :
    WalkOK l (abs l).live t (Log.getByTime.go t l.segs.length l l.segs.length) := by
  have hlen := shape_length l.segs
  have hloads := getByTime_go_loads t l.segs.length l.segs.length l
  refine ⟨hloads.loaded hinv, hloads.segP TimesFor ht (fun s hs =>
    derive_timesFor _ _ _ hp (seg_times_mono l hm s hs).1 (seg_times_mono l hm s hs).2), ?_⟩
  obtain ⟨k, hk⟩ := segs_length_succ hinv
  have := getByTime_walk t (shape l.segs) hm hfab.toShape k l hinv ht hp rfl
    (by rw [hlen, hk]; exact Nat.lt_succ_self k)
    (by intro m hm'
        rw [flat_drop_len _ _ (by rw [hlen, hk]; exact Nat.le_refl _)] at hm'
        cases hm')
  rw [hlen, ← hk] at this
  exact this

/-- **C10 refinement (GetByTime)**: the first live message whose time is not before `t`;
`ErrNotFound` if there is none (`ErrInvalidOffset` on an empty log); `ErrNoIndex` without
the time index, and then the side conditions are not needed. -/
theorem getByTime_ok' (l : Log) (hinv : Inv l) (hf : FirstAtBase l)
    (ht : l.opts.params.times = true → TimesInv l ∧ Spec.Monotone (abs l)) (t : Int) :
    Spec.GetByTimeOK l.opts.params.times (abs l) t (l.getByTime t).2 := by
  unfold Spec.GetByTimeOK Log.getByTime
  by_cases hp : l.opts.params.times = true
  · simp only [hp, not_true_eq_false, if_false]
    exact (getByTime_all l hinv (ht hp).1 (ht hp).2 hf hp t).res
  · simp [hp]

theorem getByTime_ok (l : Log) (hinv : Inv l) (ht : TimesInv l) (hm : Spec.Monotone (abs l))
    (hfab : FirstAtBase l) (t : Int) :
    Spec.GetByTimeOK l.opts.params.times (abs l) t (l.getByTime t).2 :=
  getByTime_ok' l hinv hfab (fun _ => ⟨ht, hm⟩) t

theorem getByTime_loaded (l : Log) (hinv : Inv l) (_ht : TimesInv l)
    (_hm : Spec.Monotone (abs l)) (_hfab : FirstAtBase l) (t : Int) :
    Loaded l (l.getByTime t).1 := (getByTime_loads l t).loaded hinv

theorem getByTime_timesInv (l : Log) (hinv : Inv l) (ht : TimesInv l) (hm : Spec.Monotone (abs l))
    (hfab : FirstAtBase l) (t : Int) : TimesInv (l.getByTime t).1 := by
  unfold Log.getByTime
  by_cases hp : l.opts.params.times = true
  · simp only [hp, not_true_eq_false, if_false]
    exact (getByTime_all l hinv ht hm hfab hp t).times
  · rw [if_pos hp]
    exact ht

end Klev

#print axioms Klev.derive_timesFor
#print axioms Klev.withIndex_times
#print axioms Klev.readerGetByTime_spec
#print axioms Klev.getByTime_ok
#print axioms Klev.getByTime_loaded
#print axioms Klev.getByTime_timesInv
