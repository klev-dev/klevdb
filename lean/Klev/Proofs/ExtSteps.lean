/-
Which segments a log holds after a close and a reopen, in terms of those it held before
(`reopen_forall`); for Publish, Delete, GC and Open the same stands with the operation
(`publish_forall`, …), for the reads it is `Loads.forall`.
`FirstAtBase`, `KeysInv`, `TimesInv` and `MemIdx` are all of the form "every segment
satisfies …", so their step theorems reduce to statements about the few new segments.
-/
import Klev.Proofs.Reach
namespace Klev

theorem closedDisk_forall (DQ : SegDisk → Prop) (l : Log) (rm : List Int) (mig : Option Ver)
    (rec : Bool) (h0 : ∀ s ∈ l.segs, DQ s.toDisk)
    (hrm : ∀ sd, DQ sd → DQ { sd with idxf := none })
    (hmig : ∀ v sd, DQ sd → DQ (segMigrate l.opts.params v v sd))
    (hrec : ∀ sd, DQ sd → DQ (segRecover l.opts.params sd)) :
    ∀ sd ∈ closedDisk l rm mig rec, DQ sd :=
  closedDisk_ind (fun d => ∀ sd ∈ d, DQ sd) l rm mig rec (List.forall_mem_map.mpr h0)
    (fun _ hd => List.forall_mem_map.mpr fun sd h => by
      split
      · exact hrm sd (hd sd h)
      · exact hd sd h)
    (fun v _ hd => List.forall_mem_map.mpr fun sd h => hmig v sd (hd sd h))
    (mapLast_forall _ DQ hrec)

theorem closedDisk_length (l : Log) (rm : List Int) (mig : Option Ver) (rec : Bool) :
    (closedDisk l rm mig rec).length = l.segs.length :=
  closedDisk_ind (fun d => d.length = l.segs.length) l rm mig rec (List.length_map _)
    (fun _ h => (List.length_map _).trans h) (fun _ _ h => (List.length_map _).trans h)
    (fun _ h => (mapLast_length _ _).trans h)

theorem closedDisk_ne (l : Log) (hne : l.segs ≠ []) (rm : List Int) (mig : Option Ver) (rec : Bool) :
    closedDisk l rm mig rec ≠ [] := fun he =>
  hne (List.eq_nil_of_length_eq_zero (by rw [← closedDisk_length l rm mig rec, he]; rfl))

/-- Every segment after a close and reopen comes from a file of an old segment, possibly with
its index removed, migrated or recovered (under the old or the new index configuration), the
last one opened by the writer. -/
theorem reopen_forall (DQ : SegDisk → Prop) (Q : Seg → Prop) (l : Log) (hinv : Inv l)
    (rm : List Int) (mig : Option Ver) (rec : Bool) (oo : OpenOpts)
    (hQ : ∀ s ∈ l.segs, Q s) (h0 : ∀ s ∈ l.segs, DQ s.toDisk)
    (hrm : ∀ sd, DQ sd → DQ { sd with idxf := none })
    (hmig : ∀ p, p = l.opts.params ∨ p = oo.opts.params → ∀ v sd, DQ sd → DQ (segMigrate p v v sd))
    (hrec : ∀ p, p = l.opts.params ∨ p = oo.opts.params → ∀ sd, DQ sd → DQ (segRecover p sd))
    (hseg : ∀ sd, DQ sd → Q sd.toSeg)
    (hopen : ∀ sd, DQ sd → Q (openWriter oo.opts sd.toSeg 0).1) :
    ∀ s ∈ (stepOp l (.reopen rm mig rec oo)).segs, Q s := by
  simp only [stepOp]
  cases ho : Log.open (closedDisk l rm mig rec) oo with
  | err e => exact hQ
  | ok l' =>
    exact open_forall DQ Q _ oo l' ho (closedDisk_ne l hinv.segs_ne rm mig rec)
      (closedDisk_forall DQ l rm mig rec h0 hrm (hmig _ (Or.inl rfl)) (hrec _ (Or.inl rfl)))
      (hrec _ (Or.inr rfl)) (hmig _ (Or.inr rfl) _) hseg hopen

end Klev
