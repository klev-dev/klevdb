/-
The trims (trim_offset.go, trim_count.go, trim_size.go, trim_age.go) = `Find*`, then `Delete`
(one segment per call) or `DeleteMulti`. The closed forms of the `Find*` loops
(Klev/Proofs/HelpersOK.lean, Klev/Proofs/TrimFind.lean) and what `thenDelete` does with a
selection (Klev/Proofs/DeleteMultiOK.lean) give the bound each `…Multi` trim establishes on a
read-write log and, for both modes and any handle, that only selected messages go.

`MemIdx` is the extra invariant clause `Stat` needs (a segment whose index is in memory has
an index file); it holds in every state reachable from a read-write open of an empty directory
(`reach_memIdx`) and is not part of `Inv`.
-/
import Klev.Proofs.TrimFind
import Klev.Proofs.DeleteMultiOK
namespace Klev

open Helpers

theorem removeAll_take (L : List Msg) (hp : L.Pairwise (fun a b => a.off < b.off)) (K : Nat) :
    Spec.removeAll L (L.take K) = L.drop K := by
  have hnd := pairwise_off_nodup hp
  rw [← List.take_append_drop K L] at hnd
  obtain ⟨_, _, hdis⟩ := List.nodup_append.mp hnd
  unfold Spec.removeAll
  conv => lhs; arg 2; rw [← List.take_append_drop K L]
  rw [List.filter_append, List.filter_eq_nil_iff.mpr (by intro m hm; simp [hm]),
    List.filter_eq_self.mpr (by
      intro m hm
      have : m ∉ L.take K := fun hc => hdis m hc m hm rfl
      simp [this]), List.nil_append]

/-- **TrimByOffsetMulti** on a read-write log, `before ≥ -3` (`OffsetOldest`, `OffsetNewest`, every
real offset): no error; `OffsetOldest` removes nothing; otherwise, with `b` = the next offset for
`OffsetNewest` and `before` itself for a real offset, afterwards no live message has an offset
below `b`, exactly the live messages below `b` were removed (and reported), everything else is
untouched. -/
theorem trimByOffsetMulti_bound (l : Log) (h : Inv l) (hro : l.opts.readonly = false) (before : Int)
    (hb : -4 < before) :
    let r := thenDelete true (findByOffset l before)
    let b := if before = offsetNewest then (abs l).next else before
    Inv r.1 ∧ r.2.err = none ∧ (abs r.1).next = (abs l).next ∧
    (before = offsetOldest → (abs r.1).live = (abs l).live ∧ r.2.msgs = []) ∧
    (before ≠ offsetOldest →
      (abs r.1).live = (abs l).live.filter (fun m => decide (b ≤ m.off)) ∧
      (∀ m ∈ (abs r.1).live, b ≤ m.off) ∧
      (∀ d, d ∈ r.2.msgs ↔ d ∈ (abs l).live ∧ d.off < b) ∧
      r.2.msgs = (abs l).live.filter (fun m => decide (m.off < b))) := by
  obtain ⟨l', hld, heq⟩ := findByOffset_eq l h before hb
  by_cases ho : before = offsetOldest
  · rw [if_pos ho] at heq
    rw [heq]
    obtain ⟨hi, he, hn, hm, hl⟩ := thenDelete_multi_exact l l' hld hro [] [] (List.nil_sublist _)
      (Spec.SameSet.refl _) _ rfl
    exact ⟨hi, he, hn, fun _ => ⟨hl.trans (removeAll_nil _), hm⟩, fun hc => absurd ho hc⟩
  · rw [if_neg ho] at heq
    rw [heq]
    intro r b
    obtain ⟨hi, he, hn, hm, hl⟩ := thenDelete_multi_exact l l' hld hro _
      ((abs l).live.filter (fun m => decide (m.off < b))) List.filter_sublist (Spec.SameSet.refl _)
      r rfl
    rw [removeAll_filter _ (fun m => decide (m.off < b)) (fun m => decide (b ≤ m.off))
      (fun m _ => by simp only [← Int.not_lt, decide_not])] at hl
    refine ⟨hi, he, hn, fun hc => absurd hc ho, fun _ => ⟨hl, ?_, ?_, hm⟩⟩
    · intro m hm'
      rw [hl, List.mem_filter, decide_eq_true_eq] at hm'
      exact hm'.2
    · intro d
      rw [hm, List.mem_filter, decide_eq_true_eq]

/-- `TrimByOffsetMulti(OffsetNewest)` empties the log. -/
theorem trimByOffsetMulti_newest (l : Log) (h : Inv l) (hro : l.opts.readonly = false) :
    (abs (thenDelete true (findByOffset l offsetNewest)).1).live = [] := by
  obtain ⟨_, _, _, _, h5⟩ := trimByOffsetMulti_bound l h hro offsetNewest (by decide)
  obtain ⟨hl, _, _, _⟩ := h5 (by decide)
  rw [hl, List.filter_eq_nil_iff]
  intro m hm
  simp only [if_true, decide_eq_true_eq]
  exact Int.not_le.mpr ((abs_wf l h).2 m hm).2

theorem sub_toNat_sub_eq_min (n : Nat) {max : Int} (h : 0 ≤ max) :
    ((n - ((n : Int) - max).toNat : Nat) : Int) = min (n : Int) max := by
  rcases Int.le_total (n : Int) max with hle | hle
  · rw [Int.toNat_eq_zero.mpr (Int.sub_nonpos_of_le hle), Nat.sub_zero, Int.min_eq_left hle]
  · have hk : ((n : Int) - max).toNat ≤ n := Int.toNat_le.mpr (Int.sub_le_self _ h)
    rw [Int.min_eq_right hle, Int.ofNat_sub hk, Int.toNat_of_nonneg (Int.sub_nonneg_of_le hle),
      Int.sub_sub_self]

/-- **TrimByCountMulti** on a read-write log: no error; the first `n − max` live messages are
removed, the others are untouched; for `0 ≤ max` exactly `min n max` messages remain. -/
theorem trimByCountMulti_bound (l : Log) (h : Inv l) (hro : l.opts.readonly = false) (hmi : MemIdx l)
    (max : Int) :
    let r := thenDelete true (findByCount l max)
    let K := (((abs l).live.length : Int) - max).toNat
    Inv r.1 ∧ r.2.err = none ∧ (abs r.1).next = (abs l).next ∧
    (abs r.1).live = (abs l).live.drop K ∧
    r.2.msgs = (abs l).live.take K ∧
    (0 ≤ max → ((abs r.1).live.length : Int) = min ((abs l).live.length : Int) max) := by
  obtain ⟨l', hld, heq⟩ := findByCount_eq l h hmi max
  rw [heq]
  intro r K
  obtain ⟨hi, he, hn, hm, hl⟩ := thenDelete_multi_exact l l' hld hro _ _
    (List.take_sublist K (abs l).live) (Spec.SameSet.refl _) r rfl
  rw [removeAll_take _ (abs_wf l h).1] at hl
  refine ⟨hi, he, hn, hl, hm, fun hmax => ?_⟩
  rw [hl, List.length_drop]
  exact sub_toNat_sub_eq_min _ hmax

/-- **TrimBySizeMulti** on a read-write log: no error; with `S` the `Stat` size and
`P = sizePrefix Size sz S live` (the `FindBySize` selection), exactly `P` is removed, the rest is
untouched; the estimate `S − Σ Size(P)` is below `sz` unless everything was removed, and no
shorter prefix achieves that. -/
theorem trimBySizeMulti_bound (l : Log) (h : Inv l) (hro : l.opts.readonly = false) (hmi : MemIdx l)
    (sz : Int) :
    ∃ st, (l.stat).2 = .ok st ∧
    let r := thenDelete true (findBySize l sz)
    let P := Spec.sizePrefix (sizeOf l) sz st.size (abs l).live
    Inv r.1 ∧ r.2.err = none ∧ (abs r.1).next = (abs l).next ∧
    (abs r.1).live = (abs l).live.drop P.length ∧ P = (abs l).live.take P.length ∧
    r.2.msgs = P ∧
    (st.size - (P.map (sizeOf l)).sum < sz ∨ (abs r.1).live = []) ∧
    (∀ k, k < P.length → sz ≤ st.size - (((abs l).live.take k).map (sizeOf l)).sum) := by
  obtain ⟨st, l', hst, hld, heq⟩ := findBySize_eq l h hmi sz
  refine ⟨st, hst, ?_⟩
  rw [heq]
  intro r P
  have hpre : P <+: (abs l).live := sizePrefix_prefix _ _ _ _
  have hP : P = (abs l).live.take P.length := List.prefix_iff_eq_take.mp hpre
  obtain ⟨hi, he, hn, hm, hl⟩ := thenDelete_multi_exact l l' hld hro _ P hpre.sublist
    (Spec.SameSet.refl _) r rfl
  have hl' : (abs r.1).live = (abs l).live.drop P.length := by
    rw [← removeAll_take _ (abs_wf l h).1, ← hP]; exact hl
  refine ⟨hi, he, hn, hl', hP, hm, ?_, sizePrefix_minimal (sizeOf l) sz (abs l).live st.size⟩
  rcases sizePrefix_reaches (sizeOf l) sz (abs l).live st.size with h1 | h1
  · exact Or.inl h1
  · right
    rw [hl', congrArg List.length h1, List.drop_length]

/-- **TrimByOffset / TrimByOffsetMulti**, any handle: only live messages below the bound are
removed (none for `OffsetOldest`), and exactly the reported ones. -/
theorem trimByOffset_any (l : Log) (h : Inv l) (before : Int) (hb : -4 < before) (multi : Bool) :
    let r := thenDelete multi (findByOffset l before)
    let b := if before = offsetNewest then (abs l).next else before
    Inv r.1 ∧ (abs r.1).live = Spec.removeAll (abs l).live r.2.msgs ∧ (abs r.1).next = (abs l).next ∧
    r.2.msgs.Nodup ∧
    ∀ d ∈ r.2.msgs, d ∈ (abs l).live ∧ before ≠ offsetOldest ∧ d.off < b := by
  obtain ⟨l', hld, heq⟩ := findByOffset_eq l h before hb
  by_cases ho : before = offsetOldest
  · rw [if_pos ho] at heq
    rw [heq]
    obtain ⟨h1, h2, h3, h4, h5⟩ := thenDelete_sel l l' hld multi [] [] (fun _ hx => nomatch hx)
      (fun _ ho => ho)
    exact ⟨h1, h2, h3, h4, fun d hd => nomatch h5 d hd⟩
  · rw [if_neg ho] at heq
    rw [heq]
    intro r b
    obtain ⟨h1, h2, h3, h4, h5⟩ := thenDelete_sel l l' hld multi _
      ((abs l).live.filter (fun m => decide (m.off < b))) (fun x hx => (List.mem_filter.mp hx).1)
      (fun _ ho => ho)
    refine ⟨h1, h2, h3, h4, fun d hd => ?_⟩
    obtain ⟨hd1, hd2⟩ := List.mem_filter.mp (h5 d hd)
    exact ⟨hd1, ho, of_decide_eq_true hd2⟩

/-- **TrimByCount / TrimByCountMulti**, any handle: only messages among the first `n − max` are
removed, so at least `min n max` remain. -/
theorem trimByCount_any (l : Log) (h : Inv l) (hmi : MemIdx l) (max : Int) (multi : Bool) :
    let r := thenDelete multi (findByCount l max)
    let K := (((abs l).live.length : Int) - max).toNat
    Inv r.1 ∧ (abs r.1).live = Spec.removeAll (abs l).live r.2.msgs ∧ (abs r.1).next = (abs l).next ∧
    r.2.msgs.Nodup ∧ (∀ d ∈ r.2.msgs, d ∈ (abs l).live.take K) ∧
    (∀ m ∈ (abs l).live.drop K, m ∈ (abs r.1).live) := by
  obtain ⟨l', hld, heq⟩ := findByCount_eq l h hmi max
  rw [heq]
  intro r K
  obtain ⟨h1, h2, h3, h4, h5⟩ := thenDelete_sel l l' hld multi _ ((abs l).live.take K)
    (fun x hx => List.mem_of_mem_take hx) (fun _ ho => ho)
  refine ⟨h1, h2, h3, h4, h5, fun m hm => ?_⟩
  -- a message beyond the first `K` is not among them, so it is not reported
  rw [h2, mem_removeAll]
  refine ⟨List.mem_of_mem_drop hm, fun hc => ?_⟩
  have hp := (abs_wf l h).1
  rw [← List.take_append_drop K (abs l).live, List.pairwise_append] at hp
  exact Int.lt_irrefl _ (hp.2.2 m (h5 m hc) m hm)

/-- **TrimBySize / TrimBySizeMulti**, any handle: only messages of the `FindBySize` selection are
removed. -/
theorem trimBySize_any (l : Log) (h : Inv l) (hmi : MemIdx l) (sz : Int) (multi : Bool) :
    ∃ st, (l.stat).2 = .ok st ∧
    let r := thenDelete multi (findBySize l sz)
    Inv r.1 ∧ (abs r.1).live = Spec.removeAll (abs l).live r.2.msgs ∧ (abs r.1).next = (abs l).next ∧
    r.2.msgs.Nodup ∧ ∀ d ∈ r.2.msgs, d ∈ Spec.sizePrefix (sizeOf l) sz st.size (abs l).live := by
  obtain ⟨st, l', hst, hld, heq⟩ := findBySize_eq l h hmi sz
  rw [heq]
  exact ⟨st, hst, thenDelete_sel l l' hld multi _ _
    (fun x hx => (sizePrefix_prefix (sizeOf l) sz (abs l).live st.size).subset hx) (fun _ ho => ho)⟩

/-- **TrimByAge / TrimByAgeMulti**, any handle: whatever `FindByAge` answers, only live messages
not newer than `t` are removed, and exactly the reported ones. -/
theorem trimByAge_any (l : Log) (h : Inv l) (t : Int) (multi : Bool) :
    let r := thenDelete multi (findByAge l t)
    Inv r.1 ∧ (abs r.1).live = Spec.removeAll (abs l).live r.2.msgs ∧ (abs r.1).next = (abs l).next ∧
    r.2.msgs.Nodup ∧ ∀ d ∈ r.2.msgs, d ∈ (abs l).live ∧ d.time ≤ t := by
  have hld := (findByAge_res l h t).1
  have htake := findByAge_take l h t
  cases hf : findByAge l t with
  | mk l1 q =>
    rw [hf] at hld htake
    cases q with
    | err e =>
      exact ⟨hld.inv, by rw [thenDelete_err, hld.abs, removeAll_nil], by rw [thenDelete_err, hld.abs],
        List.nodup_nil, fun d hd => nomatch hd⟩
    | ok offs =>
      obtain ⟨n, _, he, hle⟩ := htake offs rfl
      obtain ⟨h1, h2, h3, h4, h5⟩ := thenDelete_sel l l1 hld multi offs ((abs l).live.take n)
        (fun x hx => List.mem_of_mem_take hx) (fun _ ho => he ▸ ho)
      exact ⟨h1, h2, h3, h4, fun d hd => ⟨List.mem_of_mem_take (h5 d hd),
        hle d (List.mem_of_mem_take (h5 d hd)) (he ▸ List.mem_map.mpr ⟨d, h5 d hd, rfl⟩)⟩⟩

end Klev

#print axioms Klev.trimByOffsetMulti_bound
#print axioms Klev.trimByOffsetMulti_newest
#print axioms Klev.trimByCountMulti_bound
#print axioms Klev.trimBySizeMulti_bound
#print axioms Klev.trimByOffset_any
#print axioms Klev.trimByCount_any
#print axioms Klev.trimBySize_any
#print axioms Klev.trimByAge_any
