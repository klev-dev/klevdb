/-
"Recover keeps exactly the valid prefix; Check accepts exactly the clean segments" on the
bytes of a head segment (`Klev/SegBytes.lean`).

Throughout: `ms` are encodable records, the log file is `render v ms ++ junk`, and
`hno` says that what follows the valid records does not itself parse as a record
(automatic for a tail shorter than a record header, in particular for `junk = []`:
`hno_short`, `hno_nil`). `recover_prefix`, `check_prefix_iff`, `check_recoveredIdx` hold for either
log version whose header is recognised (`hv`); a V2 header always is (`logVersion_hdr_v2`).
-/
import Klev.SegBytes
import Klev.Proofs.ScanProofs
import Klev.Proofs.SegBytesProofs
import Klev.Proofs.IdxRoundTrip
import Klev.Proofs.Layout
namespace Klev

theorem logVersion_hdr_v2 (rest : List UInt8) (base : Int) :
    logVersion (logHdr .v2 ++ rest) base = .ok .v2 := by
  -- the eight header bytes are concrete, so the parse evaluates whatever follows them
  rfl

theorem logVersion_render_v2 (ms : List Msg) (junk : List UInt8) (base : Int) :
    logVersion (render .v2 ms ++ junk) base = .ok .v2 := by
  rw [render, List.append_assoc]
  exact logVersion_hdr_v2 _ base

theorem hno_nil (ms : List Msg) :
    ∀ m n, dec .v2 (render .v2 ms ++ []) (render .v2 ms).length ≠ .ok m n :=
  dec_end_ne_ok .v2 ms

theorem hno_short (ms : List Msg) (junk : List UInt8) (hj : junk.length < 28) :
    ∀ m n, dec .v2 (render .v2 ms ++ junk) (render .v2 ms).length ≠ .ok m n :=
  dec_short_ne_ok .v2 _ _ (by rw [List.length_append]; exact Nat.add_lt_add_left hj _)

theorem deriveScan_prefix (p : Params) (v : Ver) (ms : List Msg) (junk : List UInt8)
    (h : ∀ m ∈ ms, m.Encodable)
    (hno : ∀ m n, dec v (render v ms ++ junk) (render v ms).length ≠ .ok m n) :
    deriveScan p (scan v (render v ms ++ junk)).recs = derive p v ms := by
  rw [deriveScan, (scan_prefix_layout v ms junk h hno).2.1, derive]

theorem deriveScan_render (p : Params) (v : Ver) (ms : List Msg) (h : ∀ m ∈ ms, m.Encodable) :
    deriveScan p (scan v (render v ms)).recs = derive p v ms := by
  rw [deriveScan, (scan_render v ms h).2.2.1, derive]

theorem recover_prefix (p : Params) (v : Ver) (base : Int) (ms : List Msg) (junk : List UInt8)
    (idx : Option (List UInt8)) (h : ∀ m ∈ ms, m.Encodable)
    (hv : logVersion (render v ms ++ junk) base = .ok v)
    (hno : ∀ m n, dec v (render v ms ++ junk) (render v ms).length ≠ .ok m n) :
    Seg.recover p ⟨base, render v ms ++ junk, idx⟩ =
      .ok ⟨base, render v ms, recoveredIdx p base (derive p v ms) idx⟩ := by
  obtain ⟨h1, _, _, h4, h5⟩ := scan_prefix_layout v ms junk h hno
  have hw := deriveScan_prefix p v ms junk h hno
  by_cases hj : junk = []
  · rw [Seg.recover_of_version p ⟨base, render v ms ++ junk, idx⟩ v hv, h4.mpr hj]
    dsimp only
    rw [hw, hj, List.append_nil]
  · obtain ⟨e, he, _⟩ := h5 hj
    rw [Seg.recover_of_version p ⟨base, render v ms ++ junk, idx⟩ v hv, he]
    dsimp only
    rw [hw, h1]

theorem recover_eq (p : Params) (base : Int) (ms : List Msg) (junk : List UInt8)
    (idx : Option (List UInt8)) (h : ∀ m ∈ ms, m.Encodable)
    (hno : ∀ m n, dec .v2 (render .v2 ms ++ junk) (render .v2 ms).length ≠ .ok m n) :
    Seg.recover p ⟨base, render .v2 ms ++ junk, idx⟩ =
      .ok ⟨base, render .v2 ms, recoveredIdx p base (derive p .v2 ms) idx⟩ :=
  recover_prefix p .v2 base ms junk idx h (logVersion_render_v2 ms junk base) hno

theorem recover_log (p : Params) (base : Int) (ms : List Msg) (junk : List UInt8)
    (idx : Option (List UInt8)) (h : ∀ m ∈ ms, m.Encodable)
    (hno : ∀ m n, dec .v2 (render .v2 ms ++ junk) (render .v2 ms).length ≠ .ok m n) :
    ∃ f', Seg.recover p ⟨base, render .v2 ms ++ junk, idx⟩ = .ok f' ∧ f'.base = base ∧
      f'.log = render .v2 ms :=
  ⟨_, recover_eq p base ms junk idx h hno, rfl, rfl⟩

theorem recover_clean (p : Params) (base : Int) (ms : List Msg) (idx : Option (List UInt8))
    (h : ∀ m ∈ ms, m.Encodable) :
    Seg.recover p ⟨base, render .v2 ms, idx⟩ =
      .ok ⟨base, render .v2 ms, recoveredIdx p base (derive p .v2 ms) idx⟩ := by
  have := recover_eq p base ms [] idx h (hno_nil ms)
  rwa [List.append_nil] at this

theorem check_prefix_iff (p : Params) (v : Ver) (base : Int) (ms : List Msg) (junk : List UInt8)
    (idx : Option (List UInt8)) (h : ∀ m ∈ ms, m.Encodable)
    (hv : logVersion (render v ms ++ junk) base = .ok v)
    (hno : ∀ m n, dec v (render v ms ++ junk) (render v ms).length ≠ .ok m n) :
    Seg.check p ⟨base, render v ms ++ junk, idx⟩ = .ok () ↔
      junk = [] ∧ (idx = none ∨ ∃ ib iv items, idx = some ib ∧
        parseIdx p ib base = .ok (iv, items) ∧ items = derive p v ms) := by
  rw [Seg.check_ok_iff p ⟨base, render v ms ++ junk, idx⟩ v hv]
  simp only [deriveScan_prefix p v ms junk h hno, (scan_prefix_layout v ms junk h hno).2.2.2.1]

theorem check_iff (p : Params) (base : Int) (ms : List Msg) (junk : List UInt8)
    (idx : Option (List UInt8)) (h : ∀ m ∈ ms, m.Encodable)
    (hno : ∀ m n, dec .v2 (render .v2 ms ++ junk) (render .v2 ms).length ≠ .ok m n) :
    Seg.check p ⟨base, render .v2 ms ++ junk, idx⟩ = .ok () ↔
      junk = [] ∧ (idx = none ∨ ∃ ib iv items, idx = some ib ∧
        parseIdx p ib base = .ok (iv, items) ∧
        items = deriveScan p (scan .v2 (render .v2 ms)).recs) := by
  rw [deriveScan_render p .v2 ms h]
  exact check_prefix_iff p .v2 base ms junk idx h (logVersion_render_v2 ms junk base) hno

theorem check_clean_iff (p : Params) (base : Int) (ms : List Msg) (idx : Option (List UInt8))
    (h : ∀ m ∈ ms, m.Encodable) :
    Seg.check p ⟨base, render .v2 ms, idx⟩ = .ok () ↔
      (idx = none ∨ ∃ ib iv items, idx = some ib ∧ parseIdx p ib base = .ok (iv, items) ∧
        items = derive p .v2 ms) := by
  have := check_prefix_iff p .v2 base ms [] idx h (logVersion_render_v2 ms [] base) (hno_nil ms)
  rwa [List.append_nil, eq_self, true_and] at this

theorem newItem_mask (p : Params) (m : Msg) (pos ts : Int) :
    (newItem p m pos ts).mask p = newItem p m pos ts := by
  obtain ⟨t, k⟩ := p
  cases t <;> cases k <;> rfl

/-- Induction along `deriveFrom`: `R` is an invariant of the carried `indexTime`, `Q` what it
gives for each item. -/
theorem deriveFrom_forall (p : Params) (R : Int → Prop) (Q : Item → Prop) :
    ∀ (l : List (Int × Msg)) (ts : Int), R ts →
      (∀ pm ∈ l, ∀ ts, R ts → Q (newItem p pm.2 pm.1 ts) ∧ R (newItem p pm.2 pm.1 ts).ts) →
      ∀ it ∈ deriveFrom p ts l, Q it := by
  intro l
  induction l with
  | nil => intro ts _ _ it hit; cases hit
  | cons pm l ih =>
    intro ts hts hl it hit
    obtain ⟨hq, hr⟩ := hl pm List.mem_cons_self ts hts
    rcases List.mem_cons.mp hit with rfl | hit
    · exact hq
    · exact ih _ hr (fun pm' hpm' => hl pm' (List.mem_cons_of_mem _ hpm')) it hit

theorem layout_bound (v : Ver) (ms : List Msg) (h : ∀ m ∈ ms, m.Encodable)
    (hsize : (render v ms).length < two63) :
    ∀ pm ∈ layout v ms, 0 ≤ pm.1 ∧ pm.1 < (two63 : Int) ∧ pm.2.Encodable := by
  intro pm hpm
  obtain ⟨j, hj, rfl⟩ := List.getElem_of_mem hpm
  have hj' : j < ms.length := layout_length v ms ▸ hj
  -- record `j` starts where the file of the first `j` records ends, within the whole file
  have := render_take_length_mono v ms (Nat.le_of_lt hj')
  rw [List.take_length] at this
  rw [pos_eq_layout' v ms j hj', layout_getElem_snd v ms j hj hj']
  exact ⟨Int.natCast_nonneg _, Int.ofNat_lt.mpr (Nat.lt_of_le_of_lt this hsize),
    h _ (List.getElem_mem hj')⟩

/-- The carried `indexTime` is a maximum of record times, so it stays an `int64`. -/
theorem derive_inRange (p : Params) (v : Ver) (ms : List Msg) (h : ∀ m ∈ ms, m.Encodable)
    (hsize : (render v ms).length < two63) : ∀ it ∈ derive p v ms, it.InRange p := by
  refine deriveFrom_forall p (fun ts => -(two63 : Int) ≤ ts ∧ ts < (two63 : Int)) _ _ 0
    (by decide) fun pm hpm ts hts => ?_
  obtain ⟨hp1, hp2, ho1, ho2, ht1, ht2, _⟩ := layout_bound v ms h hsize pm hpm
  have hts' : -(two63 : Int) ≤ (newItem p pm.2 pm.1 ts).ts ∧
      (newItem p pm.2 pm.1 ts).ts < (two63 : Int) := by
    simp only [newItem]
    by_cases ht : p.times = true
    · rw [if_pos ht]
      exact ⟨Int.le_trans ht1 (Int.le_max_left _ _), Int.max_lt.mpr ⟨ht2, hts.2⟩⟩
    · rw [if_neg ht]
      decide
  have hp0 : -(two63 : Int) ≤ pm.1 := Int.le_trans (by decide : -(two63 : Int) ≤ 0) hp1
  exact ⟨⟨ho1, ho2, hp0, hp2, fun _ => hts'⟩, hts'⟩

theorem derive_mask (p : Params) (v : Ver) (ms : List Msg) :
    (derive p v ms).map (Item.mask p) = derive p v ms := by
  conv => rhs; rw [← List.map_id (derive p v ms)]
  exact List.map_congr_left (deriveFrom_forall p (fun _ => True) _ _ 0 trivial
    fun pm _ ts _ => ⟨newItem_mask p pm.2 pm.1 ts, trivial⟩)

theorem derive_head (p : Params) (v : Ver) (ms : List Msg) :
    ∀ it ∈ (derive p v ms).head?, ∃ m ∈ ms.head?, it.off = m.off := by
  intro it hit
  have := congrArg List.head? (derive_itemsFor p v ms).map_off
  rw [List.head?_map, List.head?_map, Option.mem_def.mp hit] at this
  cases hm : ms.head? with
  | none => rw [hm] at this; cases this
  | some m => rw [hm] at this; exact ⟨m, rfl, Option.some.inj this⟩

theorem parseIdx_renderIdx_derive (p : Params) (iv v : Ver) (ms : List Msg) (base : Int)
    (h : ∀ m ∈ ms, m.Encodable) (hsize : (render v ms).length < two63)
    (hv1 : iv = .v1 → 0 ≤ base ∧ ∀ m ∈ ms.head?, m.off = base) :
    parseIdx p (renderIdx p iv (derive p v ms)) base = .ok (iv, derive p v ms) := by
  have := parseIdx_renderIdx p iv (derive p v ms) base (derive_inRange p v ms h hsize)
    (by
      intro hiv it hit
      obtain ⟨hb, hf⟩ := hv1 hiv
      obtain ⟨m, hm, ho⟩ := derive_head p v ms it hit
      exact ⟨by rw [ho]; exact hf m hm, hb⟩)
  rw [this, derive_mask]

theorem check_recoveredIdx (p : Params) (v : Ver) (base : Int) (ms : List Msg)
    (idx : Option (List UInt8)) (h : ∀ m ∈ ms, m.Encodable)
    (hv : logVersion (render v ms) base = .ok v) (hsize : (render v ms).length < two63)
    (hbase : 0 ≤ base) (hfirst : ∀ m ∈ ms.head?, m.off = base) :
    Seg.check p ⟨base, render v ms, recoveredIdx p base (derive p v ms) idx⟩ = .ok () := by
  have := check_prefix_iff p v base ms [] (recoveredIdx p base (derive p v ms) idx) h
    (by rwa [List.append_nil]) (dec_end_ne_ok v ms)
  rw [List.append_nil] at this
  exact this.mpr ⟨rfl, recoveredIdx_parses p base _ idx fun iv =>
    parseIdx_renderIdx_derive p iv v ms base h hsize fun _ => ⟨hbase, hfirst⟩⟩

theorem check_after_recover (p : Params) (base : Int) (ms : List Msg) (junk : List UInt8)
    (idx : Option (List UInt8)) (h : ∀ m ∈ ms, m.Encodable)
    (hno : ∀ m n, dec .v2 (render .v2 ms ++ junk) (render .v2 ms).length ≠ .ok m n)
    (hsize : (render .v2 ms).length < two63)
    (hbase : 0 ≤ base) (hfirst : ∀ m ∈ ms.head?, m.off = base) :
    ∀ f', Seg.recover p ⟨base, render .v2 ms ++ junk, idx⟩ = .ok f' → Seg.check p f' = .ok () := by
  intro f' hf
  rw [recover_eq p base ms junk idx h hno] at hf
  cases hf
  exact check_recoveredIdx p .v2 base ms idx h (logVersion_hdr_v2 _ base) hsize hbase hfirst

/-- Check accepts every cleanly written V2 segment without an index file … -/
theorem check_clean_noidx (p : Params) (base : Int) (ms : List Msg) (h : ∀ m ∈ ms, m.Encodable) :
    Seg.check p ⟨base, render .v2 ms, none⟩ = .ok () :=
  (check_clean_iff p base ms none h).mpr (.inl rfl)

/-- … and with the index file, of either version, that holds the derived items. -/
theorem check_clean (p : Params) (base : Int) (ms : List Msg) (iv : Ver)
    (h : ∀ m ∈ ms, m.Encodable) (hsize : (render .v2 ms).length < two63)
    (hv1 : iv = .v1 → 0 ≤ base ∧ ∀ m ∈ ms.head?, m.off = base) :
    Seg.check p ⟨base, render .v2 ms,
      some (renderIdx p iv (deriveScan p (scan .v2 (render .v2 ms)).recs))⟩ = .ok () := by
  rw [deriveScan_render p .v2 ms h]
  exact (check_clean_iff p base ms _ h).mpr
    (.inr ⟨_, iv, _, rfl, parseIdx_renderIdx_derive p iv .v2 ms base h hsize hv1, rfl⟩)

theorem renderIdx_append (p : Params) (iv : Ver) (a b : List Item) :
    renderIdx p iv (a ++ b) = renderIdx p iv a ++ b.flatMap (encItem p) := by
  simp [renderIdx]

/-- `indexTime` after a run of records (what a writer continues from). -/
def tsAfter (p : Params) : Int → List (Int × Msg) → Int
  | ts, [] => ts
  | ts, (pos, m) :: rest => tsAfter p (newItem p m pos ts).ts rest

theorem deriveFrom_append (p : Params) : ∀ (a b : List (Int × Msg)) (ts : Int),
    deriveFrom p ts (a ++ b) = deriveFrom p ts a ++ deriveFrom p (tsAfter p ts a) b := by
  intro a
  induction a with
  | nil => intro b ts; rfl
  | cons pm a ih =>
    intro b ts
    obtain ⟨pos, m⟩ := pm
    simp only [List.cons_append, deriveFrom, tsAfter, ih]

theorem derive_append (p : Params) (v : Ver) (a b : List Msg) :
    derive p v (a ++ b) = derive p v a ++
      deriveFrom p (tsAfter p 0 (layout v a)) (layoutFrom v (logSize v a) b) := by
  simp only [derive, layout, logSize, layoutFrom_append, deriveFrom_append]

/-- If Check passes on a cleanly written segment with its derived index, it still does
after more encoded records are appended and the index is the derived one of the longer log.
(The premise is not needed: see `check_clean`.) -/
theorem check_stable_append (p : Params) (base : Int) (ms ms2 : List Msg) (iv : Ver)
    (h1 : ∀ m ∈ ms, m.Encodable) (h2 : ∀ m ∈ ms2, m.Encodable)
    (hsize : (render .v2 (ms ++ ms2)).length < two63)
    (hv1 : iv = .v1 → 0 ≤ base ∧ ∀ m ∈ (ms ++ ms2).head?, m.off = base)
    (_hc : Seg.check p ⟨base, render .v2 ms,
      some (renderIdx p iv (deriveScan p (scan .v2 (render .v2 ms)).recs))⟩ = .ok ()) :
    Seg.check p ⟨base, render .v2 (ms ++ ms2),
      some (renderIdx p iv (deriveScan p (scan .v2 (render .v2 (ms ++ ms2))).recs))⟩ = .ok () :=
  check_clean p base (ms ++ ms2) iv (List.forall_mem_append.mpr ⟨h1, h2⟩) hsize hv1

/-- The same on the bytes: the log file grows by the encoded records, the index file by the
encoded items of those records. -/
theorem check_stable_append_bytes (p : Params) (base : Int) (ms ms2 : List Msg) (iv : Ver)
    (h1 : ∀ m ∈ ms, m.Encodable) (h2 : ∀ m ∈ ms2, m.Encodable)
    (hsize : (render .v2 (ms ++ ms2)).length < two63)
    (hv1 : iv = .v1 → 0 ≤ base ∧ ∀ m ∈ (ms ++ ms2).head?, m.off = base) :
    Seg.check p ⟨base, render .v2 ms ++ encAll .v2 ms2,
      some (renderIdx p iv (derive p .v2 ms) ++
        (deriveFrom p (tsAfter p 0 (layout .v2 ms))
          (layoutFrom .v2 ((render .v2 ms).length : Int) ms2)).flatMap (encItem p))⟩ = .ok () := by
  have hall : ∀ m ∈ ms ++ ms2, m.Encodable := List.forall_mem_append.mpr ⟨h1, h2⟩
  have := check_clean p base (ms ++ ms2) iv hall hsize hv1
  rwa [deriveScan_render p .v2 _ hall, derive_append, renderIdx_append, render_append,
    ← render_length_logSize] at this

end Klev

#print axioms Klev.logVersion_render_v2
#print axioms Klev.hno_short
#print axioms Klev.deriveScan_prefix
#print axioms Klev.deriveScan_render
#print axioms Klev.recover_prefix
#print axioms Klev.recover_log
#print axioms Klev.recover_eq
#print axioms Klev.check_prefix_iff
#print axioms Klev.check_iff
#print axioms Klev.check_clean_iff
#print axioms Klev.parseIdx_renderIdx_derive
#print axioms Klev.check_recoveredIdx
#print axioms Klev.check_after_recover
#print axioms Klev.check_clean_noidx
#print axioms Klev.check_clean
#print axioms Klev.derive_append
#print axioms Klev.check_stable_append
#print axioms Klev.check_stable_append_bytes
