/-
Foundations for the client-side helpers: lists of messages in offset order, the L0 state of a
log satisfying the invariant is well-formed, `NextOffset` is the L0 `next`, and the one-step
cursor lemma for `Consume` with the full scan built on it.
-/
import Klev.Helpers
import Klev.Proofs.ReadInv
namespace Klev

theorem mem_takeWhile {α : Type} (p : α → Bool) (l : List α) (a : α) (h : a ∈ l.takeWhile p) :
    a ∈ l ∧ p a = true :=
  ⟨List.takeWhile_subset p h, List.all_eq_true.mp List.all_takeWhile a h⟩

/-- The `break` test of the helpers' loops. -/
theorem takeWhile_length_lt_iff {α : Type} (p : α → Bool) (l : List α) :
    (l.takeWhile p).length < l.length ↔ ∃ a ∈ l, p a = false := by
  rw [List.takeWhile_eq_take_findIdx_not, List.length_take]
  have h := List.findIdx_lt_length (p := fun a => !p a) (xs := l)
  simp only [Bool.not_eq_eq_eq_not, Bool.not_true] at h
  rw [← h]
  omega

theorem takeWhile_append_of_neg {α : Type} (p : α → Bool) (P R : List α)
    (h : ∃ a ∈ P, p a = false) : (P ++ R).takeWhile p = P.takeWhile p := by
  rw [List.takeWhile_append, if_neg]
  exact Nat.ne_of_lt ((takeWhile_length_lt_iff p P).mpr h)

theorem takeWhile_eq_filter {α : Type} (p : α → Bool) (l : List α)
    (h : l.Pairwise (fun a b => p b = true → p a = true)) : l.takeWhile p = l.filter p := by
  induction l with
  | nil => rfl
  | cons a l ih =>
    rw [List.pairwise_cons] at h
    rw [List.takeWhile_cons, List.filter_cons]
    cases hp : p a with
    | true => simp only [if_true]; rw [ih h.2]
    | false =>
      simp only [Bool.false_eq_true, if_false]
      symm
      rw [List.filter_eq_nil_iff]
      intro x hx hpx
      rw [h.1 x hx hpx] at hp
      cases hp

theorem eq_of_off_eq {l : List Msg} (h : l.Pairwise (fun x y => x.off < y.off)) {a b : Msg}
    (ha : a ∈ l) (hb : b ∈ l) : a.off = b.off → a = b :=
  List.Pairwise.forall_of_forall_of_flip (R := fun a b => a.off = b.off → a = b) (fun _ _ _ => rfl)
    (h.imp fun hlt he => absurd he (Int.ne_of_lt hlt))
    (h.imp fun hlt he => absurd he.symm (Int.ne_of_lt hlt)) ha hb

theorem off_mem_offsOf_iff {L Sel : List Msg} (hp : L.Pairwise (fun a b => a.off < b.off))
    (hs : ∀ x ∈ Sel, x ∈ L) {m : Msg} (hm : m ∈ L) : m.off ∈ Spec.offsOf Sel ↔ m ∈ Sel := by
  constructor
  · intro ho
    obtain ⟨x, hx, hxo⟩ := List.mem_map.mp ho
    rw [← eq_of_off_eq hp (hs x hx) hm hxo]; exact hx
  · intro hx; exact List.mem_map.mpr ⟨m, hx, rfl⟩

theorem Spec.SameSet.refl (a : List Int) : Spec.SameSet a a := ⟨fun _ h => h, fun _ h => h⟩

theorem ShapeOK.flat_pairwise {sh : Shape} (h : ShapeOK sh) :
    (flat sh).Pairwise (fun a b => a.off < b.off) := by
  unfold flat
  rw [List.pairwise_flatMap]
  refine ⟨h.sorted, ?_⟩
  rw [List.pairwise_iff_getElem]
  intro i j hi hj hij x hx y hy
  exact Int.lt_of_lt_of_le (h.rec_lt_base hij hj hx) (h.lower _ (List.getElem_mem hj) y hy)

theorem abs_wf (l : Log) (h : Inv l) : Spec.WF (abs l) :=
  ⟨h.shape.flat_pairwise, fun _ hm => ⟨h.shape.rec_nonneg hm, h.shape.lt_next hm⟩⟩

theorem abs_next_nonneg (l : Log) (h : Inv l) : 0 ≤ (abs l).next := h.shape.next_nonneg

theorem ne_offsetNewest_of_nonneg {x : Int} (h : 0 ≤ x) : x ≠ offsetNewest := by
  unfold offsetNewest; omega

theorem nextOffset_spec (l : Log) (h : Inv l) :
    (l.nextOffset).2 = .ok (abs l).next ∧ Loaded l (l.nextOffset).1 := by
  unfold Log.nextOffset
  cases hro : l.opts.readonly with
  | false =>
    rw [if_neg Bool.false_ne_true]
    exact ⟨by rw [h.next hro]; rfl, Loaded.refl h⟩
  | true =>
    have hpos := List.length_pos_iff.mpr h.segs_ne
    obtain ⟨l1, s, its, c, hw, hl1, hr⟩ :=
      withIndex_read l h (l.segs.length - 1) (Nat.sub_lt hpos Nat.one_pos)
    simp only [if_true, hw]
    exact ⟨by rw [hr.next (by rw [shape_length]; omega)]; rfl, hl1⟩

theorem nextOffset_eq (l : Log) (h : Inv l) :
    ∃ l1, l.nextOffset = (l1, .ok (abs l).next) ∧ Loaded l l1 :=
  ⟨_, Prod.ext rfl (nextOffset_spec l h).1, (nextOffset_spec l h).2⟩

namespace Spec

theorem mem_fromOff {s : Spec} {off : Int} {m : Msg} :
    m ∈ fromOff s off ↔ m ∈ s.live ∧ off ≤ m.off := by
  unfold fromOff; simp [List.mem_filter]

theorem fromOff_ge_next {s : Spec} (h : WF s) {off : Int} (hge : s.next ≤ off) :
    fromOff s off = [] := by
  unfold fromOff
  rw [List.filter_eq_nil_iff]
  intro m hm
  rw [decide_eq_true_eq]
  exact Int.not_le.mpr (Int.lt_of_lt_of_le (h.2 m hm).2 hge)

theorem fromOff_nonpos {s : Spec} (h : WF s) {off : Int} (hle : off ≤ 0) :
    fromOff s off = s.live := by
  unfold fromOff
  rw [List.filter_eq_self]
  intro m hm
  exact decide_eq_true (Int.le_trans hle (h.2 m hm).1)

theorem scanned_eq_filter {s : Spec} (hm : Monotone s) (t : Int) :
    scanned s t = s.live.filter (fun m => decide (m.time ≤ t)) :=
  takeWhile_eq_filter _ s.live (hm.1.imp fun hab hb =>
    decide_eq_true (Int.le_trans hab (of_decide_eq_true hb)))

theorem rest_nil_of_ge_next {s : Spec} (hwf : WF s) {seen rest : List Msg}
    (hF : seen ++ rest = s.live) (hge : ∀ m ∈ rest, s.next ≤ m.off) : rest = [] := by
  apply List.eq_nil_iff_forall_not_mem.mpr
  intro m hm
  exact Int.not_lt.mpr (hge m hm) (hwf.2 m (by rw [← hF]; exact List.mem_append_right _ hm)).2

theorem getLast_off_max {l : List Msg} (hp : l.Pairwise (fun a b => a.off < b.off)) {m : Msg}
    (hl : l.getLast? = some m) : ∀ x ∈ l, x.off ≤ m.off :=
  pairwise_le_getLast (key := Msg.off) (hp.imp Int.le_of_lt) hl

theorem ConsumeOK.chunk {s : Spec} (hwf : WF s) {off : Int} {mc : Nat} {nxt : Int} {ms : List Msg}
    (h : ConsumeOK s off mc (.ok (nxt, ms))) (hle : off ≤ s.next) (hn : off ≠ offsetNewest)
    (hne : ms ≠ []) :
    fromOff s off = ms ++ fromOff s nxt ∧ off < nxt ∧ 0 < nxt ∧ nxt ≤ s.next := by
  unfold ConsumeOK at h
  rw [if_neg hn, if_neg (Int.not_lt.mpr hle)] at h
  obtain ⟨⟨rest, hrest⟩, _, hlast, _⟩ := h
  obtain ⟨lm, hl⟩ : ∃ lm, ms.getLast? = some lm := by
    cases hl : ms.getLast? with
    | none => exact absurd (List.getLast?_eq_none_iff.mp hl) hne
    | some lm => exact ⟨lm, rfl⟩
  rw [hl] at hlast
  obtain rfl : nxt = lm.off + 1 := hlast
  have hlm : lm ∈ ms := List.mem_of_getLast? hl
  obtain ⟨hlive, hofflm⟩ := mem_fromOff.mp (hrest ▸ List.mem_append_left rest hlm)
  have hlt : off < lm.off + 1 := Int.lt_add_one_iff.mpr hofflm
  have hb := hwf.2 lm hlive
  have hpw : (fromOff s off).Pairwise (fun a b => a.off < b.off) := hwf.1.filter _
  rw [← hrest, List.pairwise_append] at hpw
  obtain ⟨hpms, _, hcross⟩ := hpw
  have hmsle := getLast_off_max hpms hl
  have hrestF : fromOff s (lm.off + 1) = rest := by
    have h1 : fromOff s (lm.off + 1) =
        (fromOff s off).filter (fun m => decide (lm.off + 1 ≤ m.off)) := by
      unfold fromOff
      rw [List.filter_filter]
      apply List.filter_congr
      intro m _
      rw [Bool.eq_iff_iff, Bool.and_eq_true, decide_eq_true_eq, decide_eq_true_eq]
      exact ⟨fun hc => ⟨hc, Int.le_trans (Int.le_of_lt hlt) hc⟩, And.left⟩
    rw [h1, ← hrest, List.filter_append]
    have h2 : ms.filter (fun m => decide (lm.off + 1 ≤ m.off)) = [] := by
      rw [List.filter_eq_nil_iff]
      intro m hm
      rw [decide_eq_true_eq]
      exact Int.not_le.mpr (Int.lt_add_one_iff.mpr (hmsle m hm))
    have h3 : rest.filter (fun m => decide (lm.off + 1 ≤ m.off)) = rest := by
      rw [List.filter_eq_self]
      intro m hm
      exact decide_eq_true (Int.add_one_le_iff.mpr (hcross lm hlm m hm))
    rw [h2, h3, List.nil_append]
  exact ⟨by rw [hrestF, hrest], hlt, Int.lt_add_one_iff.mpr hb.1, Int.add_one_le_iff.mpr hb.2⟩

end Spec

/-- That an empty chunk means the cursor has caught up, and `0 ≤ nxt`, is what the model adds
to the L0 relation `ConsumeOK` (`consumeOK_allows_lost_cursor`). -/
theorem consume_chunk (l : Log) (h : Inv l) (off : Int) (mc : Nat) (hmc : 1 ≤ mc)
    (hle : off ≤ (abs l).next) (hn : off ≠ offsetNewest) :
    ∃ nxt ms l1, l.consume off mc = (l1, .ok (nxt, ms)) ∧ Loaded l l1 ∧
      Spec.fromOff (abs l) off = ms ++ Spec.fromOff (abs l) nxt ∧
      0 ≤ nxt ∧ nxt ≤ (abs l).next ∧ (ms ≠ [] → off < nxt) ∧
      (ms = [] → nxt = (abs l).next ∧ Spec.fromOff (abs l) off = []) := by
  have hok := consume_ok l h off mc hmc
  have hld := consume_loaded l h off mc
  have hwf := abs_wf l h
  have hgt : ¬ off > (abs l).next := Int.not_lt.mpr hle
  cases hr : (l.consume off mc).2 with
  | err e =>
    rw [hr] at hok
    unfold Spec.ConsumeOK at hok
    simp only [hn, if_false, hgt] at hok
  | ok p =>
    obtain ⟨nxt, ms⟩ := p
    rw [hr] at hok
    refine ⟨nxt, ms, (l.consume off mc).1, by rw [← hr], hld, ?_⟩
    by_cases hms : ms = []
    · -- an empty chunk: nothing is left (`consume_nil`), and then the relation gives `nxt = next`
      subst hms
      have hF := consume_nil l h off mc hmc hn hr
      unfold Spec.ConsumeOK at hok
      rw [if_neg hn, if_neg hgt] at hok
      obtain rfl := hok.2.2.1.2.2 hF
      exact ⟨by rw [hF, Spec.fromOff_ge_next hwf (Int.le_refl _)]; rfl, abs_next_nonneg l h,
        Int.le_refl _, fun hc => absurd rfl hc, fun _ => ⟨rfl, hF⟩⟩
    · obtain ⟨h1, h2, h3, h4⟩ := Spec.ConsumeOK.chunk hwf hok hle hn hms
      exact ⟨h1, Int.le_of_lt h3, h4, fun _ => h2, fun hc => absurd hc hms⟩

/-- `off := start; loop { (nxt, ms) := Consume(off, mc); if ms = [] ∧ (nxt = off ∨ off < 0) stop;
collect ms; off := nxt }` (the driver's `fullScan`). -/
def scanAll (mc : Nat) : Nat → Log → Int → List Msg → Log × Out (Int × List Msg)
  | 0, l, _, _ => (l, .err .panic)
  | fuel + 1, l, off, acc =>
    match l.consume off mc with
    | (l1, .err e) => (l1, .err e)
    | (l1, .ok (nxt, ms)) =>
      if ms.isEmpty ∧ (nxt = off ∨ off < 0) then (l1, .ok (nxt, acc))
      else scanAll mc fuel l1 nxt (acc ++ ms)

theorem scanAll_caught_up (mc : Nat) (hmc : 1 ≤ mc) (fuel : Nat) (l : Log) (h : Inv l)
    (acc : List Msg) :
    ∃ l', scanAll mc (fuel + 1) l (abs l).next acc = (l', .ok ((abs l).next, acc)) ∧ Loaded l l' := by
  have hnn := abs_next_nonneg l h
  obtain ⟨nxt, ms, l1, hc, hld, hsplit, _, _, _, hemp⟩ :=
    consume_chunk l h (abs l).next mc hmc (Int.le_refl _) (ne_offsetNewest_of_nonneg hnn)
  rw [Spec.fromOff_ge_next (abs_wf l h) (Int.le_refl _)] at hsplit
  obtain rfl : ms = [] := (List.append_eq_nil_iff.mp hsplit.symm).1
  obtain rfl := (hemp rfl).1
  unfold scanAll
  rw [hc]
  exact ⟨l1, by simp, hld⟩

theorem scanAll_from (mc : Nat) (hmc : 1 ≤ mc) :
    ∀ (fuel : Nat) (l : Log) (off : Int) (acc : List Msg), Inv l → off ≤ (abs l).next →
      off ≠ offsetNewest → (Spec.fromOff (abs l) off).length + 2 ≤ fuel →
      ∃ l', scanAll mc fuel l off acc = (l', .ok ((abs l).next, acc ++ Spec.fromOff (abs l) off)) ∧
        Loaded l l' := by
  intro fuel
  induction fuel with
  | zero => intro l off acc _ _ _ hf; omega
  | succ fuel ih =>
    intro l off acc h hle hn hf
    obtain ⟨nxt, ms, l1, hc, hld, hsplit, hnn, hnle, _, hemp⟩ := consume_chunk l h off mc hmc hle hn
    have habs1 := hld.abs
    by_cases hms : ms = []
    · subst hms
      obtain ⟨hnx, hF⟩ := hemp rfl
      rw [hF, List.append_nil]
      by_cases hstop : nxt = off ∨ off < 0
      · unfold scanAll
        rw [hc]
        simp only [List.isEmpty_nil, true_and, hstop, if_true]
        exact ⟨l1, by rw [hnx], hld⟩
      · -- the empty chunk moved the cursor to `next`: one more `Consume` there
        obtain ⟨l', hres, hld'⟩ := scanAll_caught_up mc hmc (fuel - 1) l1 hld.inv acc
        rw [show fuel - 1 + 1 = fuel by omega, habs1, ← hnx] at hres
        unfold scanAll
        rw [hc]
        simp only [List.isEmpty_nil, true_and, hstop, if_false, List.append_nil]
        exact ⟨l', by rw [hres, hnx], hld.trans hld'⟩
    · have hie : ms.isEmpty = false := by cases ms; exact absurd rfl hms; rfl
      have hmpos : 0 < ms.length := List.length_pos_iff.mpr hms
      obtain ⟨l', hres, hld'⟩ := ih l1 nxt (acc ++ ms) hld.inv (by rw [habs1]; exact hnle)
        (ne_offsetNewest_of_nonneg hnn)
        (by rw [habs1]; rw [hsplit, List.length_append] at hf; omega)
      unfold scanAll
      rw [hc]
      simp only [hie, Bool.false_eq_true, false_and, if_false]
      exact ⟨l', by rw [hres, habs1, hsplit, List.append_assoc], hld.trans hld'⟩

/-- Iterating `Consume` from `OffsetOldest` visits every live message exactly once, in
order, and stops at `NextOffset`. -/
theorem scan_visits_all (l : Log) (h : Inv l) (mc : Nat) (hmc : 1 ≤ mc) (fuel : Nat)
    (hfuel : (abs l).live.length + 2 ≤ fuel) :
    ∃ l', scanAll mc fuel l offsetOldest [] = (l', .ok ((abs l).next, (abs l).live)) ∧
      Inv l' ∧ abs l' = abs l := by
  have hnn := abs_next_nonneg l h
  have hall : Spec.fromOff (abs l) offsetOldest = (abs l).live :=
    Spec.fromOff_nonpos (abs_wf l h) (by decide)
  obtain ⟨l', hres, hld⟩ := scanAll_from mc hmc fuel l offsetOldest [] h
    (by unfold offsetOldest; omega) (by decide) (by rw [hall]; exact hfuel)
  exact ⟨l', by rw [hres, hall, List.nil_append], hld.inv, hld.abs⟩

/-- The L0 relation `ConsumeOK` alone does not give the cursor theorem from a negative start:
from `OffsetOldest` it allows the empty chunk with `nxt = OffsetNewest` (or any `nxt ≤` the
first live offset) on a log that has messages; the scan would then end having seen nothing.
The model never does this (`consume_chunk`: `0 ≤ nxt`, and an empty chunk only when caught
up), which is what `scan_visits_all` uses beyond `consume_ok`. -/
theorem consumeOK_allows_lost_cursor :
    ∃ s : Spec, Spec.WF s ∧ s.live ≠ [] ∧
      Spec.ConsumeOK s offsetOldest 1 (.ok (offsetNewest, [])) ∧
      Spec.ConsumeOK s offsetOldest 1 (.ok (0, [])) :=
  ⟨⟨[⟨0, 0, [], []⟩], 1⟩, by decide⟩

end Klev

#print axioms Klev.abs_wf
#print axioms Klev.nextOffset_spec
#print axioms Klev.Spec.ConsumeOK.chunk
#print axioms Klev.consume_chunk
#print axioms Klev.scan_visits_all
#print axioms Klev.consumeOK_allows_lost_cursor
