/-
The record scan (`Klev/Scan.lean`) over a rendered file: records are laid out back to
back, the scan of a clean file returns exactly the records at exactly the model's
positions, and whatever follows the valid records that does not itself parse as a record
is reported as corruption at exactly the end of the valid prefix. The loop is walked once
(`scanFrom_encAll`); `scan_prefix_layout` is the theorem the others are instances of.
-/
import Klev.Scan
import Klev.Proofs.Codec
import Klev.Proofs.Layout
namespace Klev

theorem ite_ne {α : Type} {c : Prop} [Decidable c] {a b x : α} (ha : a ≠ x) (hb : b ≠ x) :
    (if c then a else b) ≠ x := by
  split <;> assumption

theorem dec_of_short (v : Ver) (b : List UInt8) (pos : Nat) (h : b.length < pos + 28) :
    dec v b pos = if b.length ≤ pos then .eof else .bad .shortHeader := by
  have hlt : b.length - pos < 28 := by omega
  have hl : (slice b pos 28).length = b.length - pos :=
    (slice_length b pos 28).trans (Nat.min_eq_right (Nat.le_of_lt hlt))
  have h28 : (slice b pos 28).length < 28 := hl ▸ hlt
  by_cases h0 : b.length ≤ pos
  · have hz : (slice b pos 28).length = 0 := hl.trans (Nat.sub_eq_zero_of_le h0)
    rw [if_pos h0]
    cases v
    · exact if_pos hz
    · exact if_pos hz
  · have hz : (slice b pos 28).length ≠ 0 := hl ▸ Nat.sub_ne_zero_of_lt (Nat.lt_of_not_le h0)
    rw [if_neg h0]
    cases v
    · exact (if_neg hz).trans (if_pos h28)
    · exact (if_neg hz).trans (if_pos h28)

theorem dec_shortHeader (v : Ver) (b : List UInt8) (pos : Nat) (h1 : pos < b.length)
    (h2 : b.length < pos + 28) : dec v b pos = .bad .shortHeader := by
  rw [dec_of_short v b pos h2, if_neg (Nat.not_le_of_gt h1)]

theorem dec_short_ne_ok (v : Ver) (b : List UInt8) (pos : Nat) (h : b.length < pos + 28) :
    ∀ m n, dec v b pos ≠ .ok m n := by
  intro m n
  rw [dec_of_short v b pos h]
  exact ite_ne nofun nofun

theorem dec_eof_iff (v : Ver) (b : List UInt8) (pos : Nat) :
    dec v b pos = .eof ↔ b.length ≤ pos := by
  refine ⟨fun h => Classical.byContradiction fun hn => ?_, fun h => ?_⟩
  · -- behind its first test every leaf of the decoder is `.bad` or `.ok`
    have h0 : (slice b pos 28).length ≠ 0 := by rw [slice_length]; omega
    revert h
    cases v
    · show decV1 b pos ≠ _
      unfold decV1
      dsimp only
      rw [if_neg h0]
      exact ite_ne nofun (ite_ne nofun (ite_ne nofun (ite_ne nofun (ite_ne nofun nofun))))
    · show decV2 b pos ≠ _
      unfold decV2
      dsimp only
      rw [if_neg h0]
      exact ite_ne nofun (ite_ne nofun (ite_ne nofun (ite_ne nofun (ite_ne nofun
        (ite_ne nofun nofun)))))
  · rw [dec_of_short v b pos (by omega), if_pos h]

/-- Byte positions of back-to-back records starting at `p`. -/
def posFrom (v : Ver) : Nat → List Msg → List (Nat × Msg)
  | _, [] => []
  | p, m :: ms => (p, m) :: posFrom v (p + (enc v m).length) ms

theorem posFrom_snd (v : Ver) (p : Nat) (ms : List Msg) : (posFrom v p ms).map (·.2) = ms := by
  induction ms generalizing p with
  | nil => rfl
  | cons m ms ih => simp [posFrom, ih]

theorem posFrom_layoutFrom (v : Ver) (p : Nat) (ms : List Msg) :
    (posFrom v p ms).map (fun pm => ((pm.1 : Int), pm.2)) = layoutFrom v (p : Int) ms := by
  induction ms generalizing p with
  | nil => rfl
  | cons m ms ih =>
    simp only [posFrom, layoutFrom, List.map_cons, ih, ← enc_length]
    simp

theorem encAll_cons (v : Ver) (m : Msg) (ms : List Msg) :
    encAll v (m :: ms) = enc v m ++ encAll v ms := by
  simp [encAll]

theorem encAll_singleton (v : Ver) (m : Msg) : encAll v [m] = enc v m := by
  rw [encAll_cons]
  exact List.append_nil _

theorem encAll_append (v : Ver) (a b : List Msg) : encAll v (a ++ b) = encAll v a ++ encAll v b := by
  simp [encAll]

theorem render_append (v : Ver) (a b : List Msg) : render v (a ++ b) = render v a ++ encAll v b := by
  simp [render, encAll_append]

theorem render_snoc (v : Ver) (ms : List Msg) (m : Msg) :
    render v (ms ++ [m]) = render v ms ++ enc v m := by
  rw [render_append, encAll_singleton]

theorem encAll_split (v : Ver) (ms : List Msg) (j : Nat) (hj : j < ms.length) :
    encAll v ms = encAll v (ms.take j) ++ enc v ms[j] ++ encAll v (ms.drop (j + 1)) := by
  conv => lhs; rw [← List.take_append_drop j ms]
  rw [encAll_append, List.drop_eq_getElem_cons hj, encAll_cons, List.append_assoc]

theorem render_split (v : Ver) (ms : List Msg) (j : Nat) (hj : j < ms.length) :
    render v ms = render v (ms.take j) ++ enc v ms[j] ++ encAll v (ms.drop (j + 1)) := by
  rw [render, encAll_split v ms j hj, ← List.append_assoc, ← List.append_assoc]
  rfl

theorem encAll_take_succ (v : Ver) (ms : List Msg) (j : Nat) (hj : j < ms.length) :
    encAll v (ms.take (j + 1)) = encAll v (ms.take j) ++ enc v ms[j] := by
  rw [List.take_succ_eq_append_getElem hj, encAll_append, encAll_singleton]

theorem take_inside (a x z : List UInt8) (c : Nat) (h1 : a.length ≤ c)
    (h2 : c ≤ a.length + x.length) : (a ++ x ++ z).take c = a ++ x.take (c - a.length) := by
  rw [List.append_assoc, List.take_append, List.take_of_length_le h1,
    List.take_append_of_le_length (Nat.sub_le_iff_le_add'.mpr h2)]

/-- Every record is at least 28 bytes, so there are no more records than bytes: the
fuel `b.length + 1` of `scan` never runs out. -/
theorem encAll_length_ge (v : Ver) (ms : List Msg) : 28 * ms.length ≤ (encAll v ms).length := by
  induction ms with
  | nil => simp [encAll]
  | cons m ms ih =>
    rw [encAll_cons, List.length_append, List.length_cons, Nat.mul_succ, Nat.add_comm (28 * _)]
    exact Nat.add_le_add (enc_length_ge v m) ih

theorem scanFrom_encAll (v : Ver) (ms : List Msg) (h : ∀ m ∈ ms, m.Encodable) :
    ∀ (pre post : List UInt8) (fuel : Nat) (acc : List (Nat × Msg)), ms.length ≤ fuel →
      scanFrom v (pre ++ encAll v ms ++ post) fuel pre.length acc =
        scanFrom v (pre ++ encAll v ms ++ post) (fuel - ms.length)
          (pre.length + (encAll v ms).length) ((posFrom v pre.length ms).reverse ++ acc) := by
  induction ms with
  | nil => intro pre post fuel acc _; simp [encAll, posFrom]
  | cons m ms ih =>
    intro pre post fuel acc hf
    have hms : ∀ x ∈ ms, x.Encodable := fun x hx => h x (List.mem_cons_of_mem _ hx)
    obtain ⟨fuel, rfl⟩ : ∃ f, fuel = f + 1 :=
      Nat.exists_eq_add_one.mpr (Nat.lt_of_lt_of_le (Nat.succ_pos _) hf)
    have hb : pre ++ encAll v (m :: ms) ++ post = pre ++ enc v m ++ (encAll v ms ++ post) := by
      simp only [encAll_cons, List.append_assoc]
    have hd := dec_enc v pre (encAll v ms ++ post) m (h m List.mem_cons_self)
    rw [hb, scanFrom, hd]
    dsimp only
    rw [← List.append_assoc (pre ++ enc v m)]
    have := ih hms (pre ++ enc v m) post fuel ((pre.length, m) :: acc) (Nat.le_of_succ_le_succ hf)
    rw [List.length_append] at this
    rw [this]
    simp only [encAll_cons, posFrom, List.length_append, List.length_cons, List.reverse_cons,
      List.append_assoc, List.singleton_append, Nat.add_sub_add_right, Nat.add_assoc]

theorem logHdr_length (v : Ver) : (logHdr v).length = initialPos v := by cases v <;> rfl

theorem initialPos_hdrSize (v : Ver) : ((initialPos v : Nat) : Int) = hdrSize v := by
  cases v <;> rfl

theorem render_length (v : Ver) (ms : List Msg) :
    (render v ms).length = initialPos v + (encAll v ms).length := by
  rw [render, List.length_append, logHdr_length]

/-- The fuel of `scan` takes it past the valid records with some to spare. -/
theorem scan_split (v : Ver) (ms : List Msg) (junk : List UInt8) (h : ∀ m ∈ ms, m.Encodable) :
    ∃ fuel, scan v (render v ms ++ junk) =
      scanFrom v (render v ms ++ junk) (fuel + 1) (render v ms).length
        (posFrom v (initialPos v) ms).reverse := by
  have hle : ms.length ≤ (render v ms ++ junk).length := by
    have := encAll_length_ge v ms
    rw [List.length_append, render_length]
    omega
  refine ⟨(render v ms ++ junk).length - ms.length, ?_⟩
  have := scanFrom_encAll v ms h (logHdr v) junk ((render v ms ++ junk).length + 1) []
    (Nat.le_succ_of_le hle)
  rw [logHdr_length, List.append_nil] at this
  rw [scan, render_length, ← Nat.sub_add_comm hle]
  exact this

/-- Whenever what follows the valid records does not itself parse as a record at that
position, the scan returns exactly the valid records at the model's positions, stops at
the end of them, and reports corruption iff there is something behind them. -/
theorem scan_prefix_layout (v : Ver) (ms : List Msg) (junk : List UInt8)
    (h : ∀ m ∈ ms, m.Encodable)
    (hno : ∀ m n, dec v (render v ms ++ junk) (render v ms).length ≠ .ok m n) :
    (scan v (render v ms ++ junk)).recs.map (·.2) = ms ∧
    (scan v (render v ms ++ junk)).recs.map (fun pm => ((pm.1 : Int), pm.2)) = layout v ms ∧
    (scan v (render v ms ++ junk)).stop = (render v ms).length ∧
    ((scan v (render v ms ++ junk)).fin = .clean ↔ junk = []) ∧
    (junk ≠ [] → ∃ e, (scan v (render v ms ++ junk)).fin = .corrupt e ∧
      dec v (render v ms ++ junk) (render v ms).length = .bad e) := by
  obtain ⟨fuel, hs⟩ := scan_split v ms junk h
  have hlay : (posFrom v (initialPos v) ms).map (fun pm => ((pm.1 : Int), pm.2)) = layout v ms := by
    rw [posFrom_layoutFrom, initialPos_hdrSize, layout]
  have hnil : dec v (render v ms ++ junk) (render v ms).length = .eof ↔ junk = [] := by
    rw [dec_eof_iff, List.length_append]
    exact ⟨fun hl => List.eq_nil_of_length_eq_zero (by omega), fun hj => by rw [hj]; simp⟩
  -- the scan ends with what the reader says behind the valid records
  cases hd : dec v (render v ms ++ junk) (render v ms).length with
  | ok m n => exact absurd hd (hno m n)
  | eof =>
    have hj := hnil.mp hd
    rw [hs, scanFrom, hd]
    dsimp only
    rw [List.reverse_reverse]
    exact ⟨posFrom_snd _ _ _, hlay, rfl, ⟨fun _ => hj, fun _ => rfl⟩, fun hn => absurd hj hn⟩
  | bad e =>
    have hj : junk ≠ [] := fun hj => by rw [hnil.mpr hj] at hd; cases hd
    rw [hs, scanFrom, hd]
    dsimp only
    rw [List.reverse_reverse]
    exact ⟨posFrom_snd _ _ _, hlay, rfl, ⟨nofun, fun hn => absurd hn hj⟩, fun _ => ⟨e, rfl, rfl⟩⟩

theorem dec_end_ne_ok (v : Ver) (ms : List Msg) :
    ∀ m n, dec v (render v ms ++ []) (render v ms).length ≠ .ok m n :=
  dec_short_ne_ok v _ _ (by rw [List.append_nil]; exact Nat.lt_add_of_pos_right (by decide : 0 < 28))

/-- Records are laid out back to back; the scan of a clean file returns exactly the
records at exactly the model's positions. -/
theorem scan_render (v : Ver) (ms : List Msg) (h : ∀ m ∈ ms, m.Encodable) :
    (scan v (render v ms)).fin = .clean ∧ (scan v (render v ms)).recs.map (·.2) = ms ∧
    (scan v (render v ms)).recs.map (fun pm => ((pm.1 : Int), pm.2)) = layout v ms ∧
    (scan v (render v ms)).stop = (render v ms).length := by
  have := scan_prefix_layout v ms [] h (dec_end_ne_ok v ms)
  rw [List.append_nil] at this
  exact ⟨this.2.2.2.1.mpr rfl, this.1, this.2.1, this.2.2.1⟩

theorem scan_prefix (v : Ver) (ms : List Msg) (junk : List UInt8) (h : ∀ m ∈ ms, m.Encodable) :
    let s := scan v (render v ms ++ junk)
    (∀ m n, dec v (render v ms ++ junk) (render v ms).length ≠ .ok m n) →
    s.recs.map (·.2) = ms ∧ s.stop = (render v ms).length ∧
    (s.fin = .clean ↔ junk = []) := by
  intro s hno
  obtain ⟨h1, _, h3, h4, _⟩ := scan_prefix_layout v ms junk h hno
  exact ⟨h1, h3, h4⟩

/-- A torn tail shorter than a header needs no hypothesis: the scan returns the valid
records and reports `shortHeader` at the end of them. -/
theorem scan_prefix_short (v : Ver) (ms : List Msg) (junk : List UInt8)
    (h : ∀ m ∈ ms, m.Encodable) (hj0 : junk ≠ []) (hj : junk.length < 28) :
    (scan v (render v ms ++ junk)).recs.map (·.2) = ms ∧
    (scan v (render v ms ++ junk)).stop = (render v ms).length ∧
    (scan v (render v ms ++ junk)).fin = .corrupt .shortHeader := by
  have hpos : 0 < junk.length := List.length_pos_iff.mpr hj0
  have hl : (render v ms ++ junk).length < (render v ms).length + 28 := by
    rw [List.length_append]
    exact Nat.add_lt_add_left hj _
  obtain ⟨h1, _, h3, _, h5⟩ := scan_prefix_layout v ms junk h (dec_short_ne_ok v _ _ hl)
  obtain ⟨e, he, hde⟩ := h5 hj0
  rw [dec_shortHeader v _ _
    (by rw [List.length_append]; exact Nat.lt_add_of_pos_right hpos) hl] at hde
  cases hde
  exact ⟨h1, h3, he⟩

theorem render_take_succ_length (v : Ver) (ms : List Msg) (j : Nat) (hj : j < ms.length) :
    (render v (ms.take (j + 1))).length = (render v (ms.take j)).length + (enc v ms[j]).length := by
  rw [render_length, render_length, encAll_take_succ v ms j hj, List.length_append, Nat.add_assoc]

/-- Positions are monotone in the record number. -/
theorem render_take_length_mono (v : Ver) (ms : List Msg) {j k : Nat} (hjk : j ≤ k) :
    (render v (ms.take j)).length ≤ (render v (ms.take k)).length := by
  rw [← List.take_append_drop j (ms.take k), List.take_take, Nat.min_eq_left hjk, render_append,
    List.length_append]
  exact Nat.le_add_right _ _

theorem sizeFrom_encAll (v : Ver) (ms : List Msg) : ∀ q : Nat,
    sizeFrom v (q : Int) ms = ((q + (encAll v ms).length : Nat) : Int) := by
  induction ms with
  | nil => intro q; simp [sizeFrom, encAll]
  | cons m ms ih =>
    intro q
    have := enc_length v m
    rw [sizeFrom, ← this, ← Int.natCast_add, ih, encAll_cons, List.length_append, Nat.add_assoc]

/-- The model's `logSize` is the length of the rendered file. -/
theorem render_length_logSize (v : Ver) (ms : List Msg) :
    ((render v ms).length : Int) = logSize v ms := by
  rw [logSize, ← initialPos_hdrSize, sizeFrom_encAll, render_length]

/-- The position of record `j` is the `j`-th position of the model's `layout`: what the
index holds for it (`ItemsFor`, `scan_render`). -/
theorem pos_eq_layout' (v : Ver) (ms : List Msg) (j : Nat) (hj : j < ms.length) :
    ((layout v ms)[j]'(by rw [layout_length]; exact hj)).1 =
      ((render v (ms.take j)).length : Int) := by
  unfold layout
  rw [layoutFrom_getElem_fst, render_length_logSize]
  rfl

theorem pos_eq_layout (ms : List Msg) (j : Nat) (hj : j < ms.length) :
    ((layout .v2 ms)[j]'(by rw [layout_length]; exact hj)).1 =
      ((render .v2 (ms.take j)).length : Int) :=
  pos_eq_layout' .v2 ms j hj

end Klev

#print axioms Klev.encAll_length_ge
#print axioms Klev.render_length_logSize
#print axioms Klev.scan_render
#print axioms Klev.scan_prefix_layout
#print axioms Klev.scan_prefix
#print axioms Klev.scan_prefix_short
