/-
The side conditions of the key and time lookups are invariants of the API.

`getByKey_ok`, `consumeByKey_ok` and `getByTime_ok` take `KeysInv l`, `TimesInv l`,
`Spec.Monotone (abs l)` and `FirstAtBase l` as hypotheses. Here they are shown to hold
in every state a history (`runOps`) reaches from an empty directory:

* `FirstAtBase` — unconditionally (`ExtFab.lean`);
* `KeysInv` — when the key index is configured and stays configured across reopens
  (`SameParams`);
* `TimesInv` and `Monotone` — when the time index is configured and stays configured, and
  every published time is at or after the writer's `nextTime`, every live time and 0
  (`TimesOKRun`); a history whose published times never decrease (`PubMono`, a condition
  on the operation list alone) is such a history.

The lookups' refinement theorems then hold of the reachable states.
`ExtReads.lean` extends the histories with the lookups themselves (they load indexes).
-/
import Klev.Proofs.ExtFab
import Klev.Proofs.ExtIdx
import Klev.Proofs.KeyOK
import Klev.Proofs.TimeOK
namespace Klev

theorem keysFor_nil : KeysFor [] [] := rfl

theorem keysFor_append (r1 : List Msg) (i1 : List Item) (r2 : List Msg) (i2 : List Item)
    (h1 : KeysFor r1 i1) (h2 : KeysFor r2 i2) : KeysFor (r1 ++ r2) (i1 ++ i2) := by
  unfold KeysFor at *
  rw [List.map_append, List.map_append, h1, h2]

theorem stamp_keys (p : Params) (hk : p.keys = true) (v : Ver)
    (b : List (Int × List UInt8 × List UInt8)) (off pos ts : Int) :
    KeysFor (stamp p v off pos ts b).1 (stamp p v off pos ts b).2 := by
  rw [stamp_eq]
  unfold KeysFor
  rw [deriveFrom_keys p hk]
  conv => rhs; rw [← layoutFrom_map_snd v pos (Spec.stampSpec off b), List.map_map]
  rfl

/-- **`KeysInv` is kept by every API step** (a reopen must keep the index configuration). -/
theorem keysInv_step (l : Log) (hinv : Inv l) (hk : l.opts.params.keys = true) (hki : KeysInv l)
    (op : Op) (hpar : OpParams l.opts.params op) : KeysInv (stepOp l op) :=
  segsP_step KeysFor keysFor_nil keysFor_append l hinv hki
    (fun _ _ _ _ _ => derive_keysFor _ _ _ hk) op hpar
    (fun b _ _ v _ => stamp_keys _ hk v b _ _ _)

theorem keysInv'_step (l : Log) (hinv : Inv l) (hki : KeysInv' l)
    (op : Op) (hpar : OpParams l.opts.params op) : KeysInv' (stepOp l op) := by
  intro hk
  rw [step_params l op hpar] at hk
  exact keysInv_step l hinv hk (hki hk) op hpar

theorem keysInv_open_empty (oo : OpenOpts) : ∀ l0, Log.open [] oo = .ok l0 → KeysInv l0 :=
  fun l0 h => segsP_open_empty KeysFor keysFor_nil oo l0 h

/-- **`KeysInv` holds along every history** that keeps the index configuration. -/
theorem keysInv'_run (l : Log) (hinv : Inv l) (hki : KeysInv' l) (ops : List Op)
    (hsame : SameParams l.opts.params ops) : KeysInv' (runOps l ops) := by
  induction ops generalizing l with
  | nil => exact hki
  | cons op rest ih =>
    obtain ⟨h1, h2⟩ := hsame
    exact ih (stepOp l op) (step_inv_abs l hinv op).1 (keysInv'_step l hinv hki op h1)
      (by rw [step_params l op h1]; exact h2)

theorem keysInv_run (l : Log) (hinv : Inv l) (hk : l.opts.params.keys = true) (hki : KeysInv l)
    (ops : List Op) (hsame : SameParams l.opts.params ops) : KeysInv (runOps l ops) :=
  keysInv'_run l hinv (fun _ => hki) ops hsame (by rw [run_params l ops hsame]; exact hk)

/-- **C09 on reachable states (GetByKey)**: after any history from an empty directory that
keeps the index configuration, `GetByKey` returns the last live message with the key. -/
theorem getByKey_ok_run (oo : OpenOpts) (ops : List Op) (hsame : SameParams oo.opts.params ops)
    (key : List UInt8) : ∀ l0, Log.open [] oo = .ok l0 →
    Spec.GetByKeyOK (runOps l0 ops).opts.params.keys (abs (runOps l0 ops)) key
      ((runOps l0 ops).getByKey key).2 := by
  intro l0 ho
  obtain ⟨hinv, _, hopts⟩ := open_nil_spec oo l0 ho
  exact getByKey_ok' _ (run_inv_abs l0 hinv ops).1
    (keysInv'_run l0 hinv (fun _ => keysInv_open_empty oo l0 ho) ops (by rw [hopts]; exact hsame)) key

/-- **C09 on reachable states (ConsumeByKey)**. -/
theorem consumeByKey_ok_run (oo : OpenOpts) (ops : List Op)
    (hsame : SameParams oo.opts.params ops) (key : List UInt8) (off mc : Int) :
    ∀ l0, Log.open [] oo = .ok l0 →
    Spec.ConsumeByKeyOK (runOps l0 ops).opts.params.keys (abs (runOps l0 ops)) key off mc
      ((runOps l0 ops).consumeByKey key off mc).2 := by
  intro l0 ho
  obtain ⟨hinv, _, hopts⟩ := open_nil_spec oo l0 ho
  exact consumeByKey_ok' _ (run_inv_abs l0 hinv ops).1
    (keysInv'_run l0 hinv (fun _ => keysInv_open_empty oo l0 ho) ops (by rw [hopts]; exact hsame))
    key off mc

theorem timesFor_nil : TimesFor [] [] := rfl

theorem timesFor_append (r1 : List Msg) (i1 : List Item) (r2 : List Msg) (i2 : List Item)
    (h1 : TimesFor r1 i1) (h2 : TimesFor r2 i2) : TimesFor (r1 ++ r2) (i1 ++ i2) := by
  unfold TimesFor at *
  rw [List.map_append, List.map_append, h1, h2]

theorem stampSpec_times : ∀ (b : List (Int × List UInt8 × List UInt8)) (off : Int),
    (Spec.stampSpec off b).map (·.time) = b.map (·.1) := by
  intro b
  induction b with
  | nil => intro _; rfl
  | cons x rest ih =>
    intro off
    obtain ⟨t, k, vl⟩ := x
    simp only [Spec.stampSpec, List.map_cons, ih]

theorem stamp_times (p : Params) (hp : p.times = true) (v : Ver)
    (b : List (Int × List UInt8 × List UInt8)) (off pos ts : Int)
    (hs : (b.map (·.1)).Pairwise (fun a c => a ≤ c)) (hge : ∀ t ∈ b.map (·.1), ts ≤ t) :
    TimesFor (stamp p v off pos ts b).1 (stamp p v off pos ts b).2 := by
  have hL : (layoutFrom v pos (Spec.stampSpec off b)).map (fun pm => pm.2.time) = b.map (·.1) := by
    rw [← stampSpec_times b off]
    conv => rhs; rw [← layoutFrom_map_snd v pos (Spec.stampSpec off b), List.map_map]
    rfl
  rw [stamp_eq]
  unfold TimesFor
  rw [deriveFrom_times p hp ts _
    (fun pm hpm => hge _ (hL ▸ List.mem_map_of_mem (f := fun pm => pm.2.time) hpm))
    (List.pairwise_map.mp (hL ▸ hs)), hL, stampSpec_times]

/-- What a history must satisfy at a Publish for the time index to stay exact: the batch
times never decrease and none is before the writer's `nextTime`, before 0, or before a
live message's time. (Nothing is asked of a read-only handle: it refuses to publish.) -/
def PubTimesOK (l : Log) : Op → Prop
  | .publish b => l.opts.readonly = false →
      (b.map (·.1)).Pairwise (fun a c => a ≤ c) ∧
      ∀ t ∈ b.map (·.1), l.wNextTime ≤ t ∧ 0 ≤ t ∧ ∀ m ∈ (abs l).live, m.time ≤ t
  | _ => True

/-- Every Publish of the history satisfies `PubTimesOK` in the state it is applied to. -/
def TimesOKRun (l : Log) : List Op → Prop
  | [] => True
  | op :: rest => PubTimesOK l op ∧ TimesOKRun (stepOp l op) rest

/-- **`Monotone` is kept by every step** under the publish hypothesis. -/
theorem monotone_step (l : Log) (hinv : Inv l) (hm : Spec.Monotone (abs l)) (op : Op)
    (hpub : PubTimesOK l op) : Spec.Monotone (abs (stepOp l op)) := by
  rw [(step_inv_abs l hinv op).2, Spec.Monotone]
  rcases specStep_cases (abs l) l op with ⟨b, rfl, hro, h⟩ | ⟨h, _⟩
  · obtain ⟨hs, hall⟩ := hpub hro
    have hmemt : ∀ m ∈ Spec.stampSpec (abs l).next b, m.time ∈ b.map (·.1) := by
      intro m hmm
      rw [← stampSpec_times b (abs l).next]
      exact List.mem_map_of_mem hmm
    rw [h, List.pairwise_append]
    refine ⟨⟨hm.1, ?_, fun a ha c hc => (hall _ (hmemt c hc)).2.2 a ha⟩, fun m hmm => ?_⟩
    · rw [← stampSpec_times b (abs l).next] at hs
      exact (List.pairwise_map (R := fun a c : Int => a ≤ c)).mp hs
    · rcases List.mem_append.mp hmm with h | h
      · exact hm.2 m h
      · exact (hall _ (hmemt m h)).2.1
  · exact ⟨hm.1.sublist h, fun m hmm => hm.2 m (h.subset hmm)⟩

theorem segDer_times (l : Log) (hp : l.opts.params.times = true) (hm : Spec.Monotone (abs l)) :
    ∀ s ∈ l.segs, SegDer TimesFor l.opts.params s.recs := by
  intro s hs v sub hsub
  obtain ⟨h1, h2⟩ := seg_times_mono l hm s hs
  exact derive_timesFor _ _ _ hp (h1.sublist hsub) (fun m hmm => h2 m (hsub.subset hmm))

/-- **`TimesInv` is kept by every step** under the publish hypothesis (a reopen must
keep the index configuration). -/
theorem timesInv_step (l : Log) (hinv : Inv l) (hp : l.opts.params.times = true)
    (hti : TimesInv l) (hm : Spec.Monotone (abs l)) (op : Op)
    (hpar : OpParams l.opts.params op) (hpub : PubTimesOK l op) : TimesInv (stepOp l op) := by
  refine segsP_step TimesFor timesFor_nil timesFor_append l hinv hti (segDer_times l hp hm)
    op hpar ?_
  intro b hb hro v pos
  subst hb
  obtain ⟨hs, hall⟩ := hpub hro
  exact stamp_times _ hp v b _ _ _ hs (fun t ht => (hall t ht).1)

theorem timesInv_open_empty (oo : OpenOpts) : ∀ l0, Log.open [] oo = .ok l0 → TimesInv l0 :=
  fun l0 h => segsP_open_empty TimesFor timesFor_nil oo l0 h

/-- **`TimesInv` and `Monotone` hold along every history** that keeps the index
configuration and whose publishes satisfy `PubTimesOK`. -/
theorem times_run (l : Log) (hinv : Inv l) (hp : l.opts.params.times = true) (hti : TimesInv l)
    (hm : Spec.Monotone (abs l)) (ops : List Op) (hsame : SameParams l.opts.params ops)
    (hok : TimesOKRun l ops) :
    TimesInv (runOps l ops) ∧ Spec.Monotone (abs (runOps l ops)) := by
  induction ops generalizing l with
  | nil => exact ⟨hti, hm⟩
  | cons op rest ih =>
    obtain ⟨h1, h2⟩ := hsame
    obtain ⟨k1, k2⟩ := hok
    have hs := step_params l op h1
    exact ih (stepOp l op) (step_inv_abs l hinv op).1 (by rw [hs]; exact hp)
      (timesInv_step l hinv hp hti hm op h1 k1) (monotone_step l hinv hm op k1)
      (by rw [hs]; exact h2) k2

theorem monotone_empty : Spec.Monotone ⟨[], 0⟩ := ⟨List.Pairwise.nil, fun _ h => by cases h⟩

theorem getByTime_ok_run' (oo : OpenOpts) (ops : List Op) (hsame : SameParams oo.opts.params ops)
    (t : Int) (l0 : Log) (ho : Log.open [] oo = .ok l0)
    (hok : l0.opts.params.times = true → TimesOKRun l0 ops) :
    Spec.GetByTimeOK (runOps l0 ops).opts.params.times (abs (runOps l0 ops)) t
      ((runOps l0 ops).getByTime t).2 := by
  obtain ⟨hinv, habs, hopts⟩ := open_nil_spec oo l0 ho
  have hsame' : SameParams l0.opts.params ops := by rw [hopts]; exact hsame
  refine getByTime_ok' _ (run_inv_abs l0 hinv ops).1
    (firstAtBase_run l0 hinv (firstAtBase_open_empty oo l0 ho) ops) (fun hp => ?_) t
  rw [run_params l0 ops hsame'] at hp
  exact times_run l0 hinv hp (timesInv_open_empty oo l0 ho) (by rw [habs]; exact monotone_empty)
    ops hsame' (hok hp)

/-- **C10 on reachable states**: after any history from an empty directory that keeps the
index configuration and whose publishes satisfy `PubTimesOK`, `GetByTime` returns the first
live message whose time is not before `t`. -/
theorem getByTime_ok_run (oo : OpenOpts) (ops : List Op) (hsame : SameParams oo.opts.params ops)
    (t : Int) : ∀ l0, Log.open [] oo = .ok l0 → TimesOKRun l0 ops →
    Spec.GetByTimeOK (runOps l0 ops).opts.params.times (abs (runOps l0 ops)) t
      ((runOps l0 ops).getByTime t).2 :=
  fun l0 ho hok => getByTime_ok_run' oo ops hsame t l0 ho fun _ => hok

/-! The carry: histories whose published times never decrease.

`PubTimesOK` mentions the writer's `nextTime`. After a Delete of the newest messages (or
of everything) that counter is larger than every live time — it remembers the newest time
ever published into the head — so no condition on the live messages alone would do. What
does: a high-water mark `hw` of the published times bounds the counter and every live
time (`TimeCarry`), and a history in which every published time is at or after all
earlier ones (`PubMono`, a condition on the operation list alone) satisfies `TimesOKRun`. -/

/-- The high-water mark after a batch: its last time. -/
def lastTime (hw : Int) (b : List (Int × List UInt8 × List UInt8)) : Int :=
  ((b.map (·.1)).getLast?).getD hw

def hwNext (hw : Int) : Op → Int
  | .publish b => lastTime hw b
  | _ => hw

def PubMonoOp (hw : Int) : Op → Prop
  | .publish b => (b.map (·.1)).Pairwise (fun a c => a ≤ c) ∧ ∀ t ∈ b.map (·.1), hw ≤ t
  | _ => True

/-- The published times never decrease along the history, starting from `hw`. -/
def PubMono (hw : Int) : List Op → Prop
  | [] => True
  | op :: rest => PubMonoOp hw op ∧ PubMono (hwNext hw op) rest

/-- The carry invariant: the writer's `nextTime` and every live time are at most `hw`. -/
def TimeCarry (l : Log) (hw : Int) : Prop :=
  0 ≤ hw ∧ l.wNextTime ≤ hw ∧ ∀ m ∈ (abs l).live, m.time ≤ hw

theorem lastTime_ge (hw : Int) (b : List (Int × List UInt8 × List UInt8))
    (hge : ∀ t ∈ b.map (·.1), hw ≤ t) : hw ≤ lastTime hw b := by
  unfold lastTime
  cases h : (b.map (·.1)).getLast? with
  | none => exact Int.le_refl _
  | some t => exact hge t (List.mem_of_getLast? h)

theorem le_lastTime (hw : Int) (b : List (Int × List UInt8 × List UInt8))
    (hs : (b.map (·.1)).Pairwise (fun a c => a ≤ c)) : ∀ t ∈ b.map (·.1), t ≤ lastTime hw b := by
  intro t ht
  obtain ⟨k, hk, rfl⟩ := List.getElem_of_mem ht
  have hn := Nat.sub_lt (Nat.zero_lt_of_lt hk) Nat.one_pos
  rw [lastTime, List.getLast?_eq_getElem?, List.getElem?_eq_getElem hn]
  exact key_le_of_le (key := fun a => a) hs (Nat.le_sub_one_of_lt hk) hn

theorem lastTime_mono {a c : Int} (h : a ≤ c) (b : List (Int × List UInt8 × List UInt8)) :
    lastTime a b ≤ lastTime c b := by
  unfold lastTime
  cases (b.map (·.1)).getLast? with
  | none => exact h
  | some t => exact Int.le_refl _

theorem hwNext_ge {hw : Int} {op : Op} (hmono : PubMonoOp hw op) : hw ≤ hwNext hw op := by
  cases op with
  | publish b => exact lastTime_ge hw b hmono.2
  | _ => exact Int.le_refl _

theorem lastOffTs_snd (its : List Item) (a c : Int) :
    (lastOffTs its a c).2 = ((its.map (·.ts)).getLast?).getD c := by
  rw [lastOffTs, List.getLast?_map]
  cases its.getLast? <;> rfl

/-- A `nextTime` that `openWriter` reads back from the index of a segment of the log is the
time of a live message, or the `nt` it was given. -/
theorem openWriter_time_le {l : Log} (hti : TimesInv l) {hw : Int}
    (hlive : ∀ m ∈ (abs l).live, m.time ≤ hw) (o : Opts) (s : Seg) (nt : Int) (hnt : nt ≤ hw)
    (hmem : (openWriter o s nt).1 ∈ l.segs) : (openWriter o s nt).2.2 ≤ hw := by
  obtain ⟨its, hmi, ht⟩ := openWriter_time o s nt
  rw [ht, lastOffTs]
  cases hg : its.getLast? with
  | none => exact hnt
  | some it =>
    have htf : TimesFor (openWriter o s nt).1.recs its := (hti _ hmem).1 its hmi
    have h1 := congrArg List.getLast? htf
    rw [List.getLast?_map, List.getLast?_map, hg] at h1
    obtain ⟨m, hr, hmt⟩ := Option.map_eq_some_iff.mp h1.symm
    have hmt : m.time = it.ts := hmt
    show it.ts ≤ hw
    rw [← hmt]
    -- `(abs l).live` is `(shape l.segs).flatMap (·.2)`
    exact hlive m (List.mem_flatMap.mpr ⟨_, List.mem_map.mpr ⟨_, hmem, rfl⟩, List.mem_of_getLast? hr⟩)

theorem publish_time (l : Log) (hinv : Inv l) (b : List (Int × List UInt8 × List UInt8))
    (hro : l.opts.readonly = false)
    (hst : ∀ v pos, TimesFor (stamp l.opts.params v l.wNextOff pos l.wNextTime b).1
      (stamp l.opts.params v l.wNextOff pos l.wNextTime b).2) :
    (l.publish b).1.wNextTime = lastTime l.wNextTime b := by
  obtain ⟨ho1, hoff1, htime1, _⟩ := rollover_facts l
  obtain ⟨h, hl⟩ := inv_getLast l.rollover (rollover_spec l hinv hro).1
  have := hst h.ver (logSize h.ver h.recs)
  unfold TimesFor at this
  rw [stamp_fst, stampSpec_times] at this
  rw [publish_eq hro, (append_some _ h hl b).2.2, ho1, hoff1, htime1, lastOffTs_snd, this, lastTime]

theorem open_empty_time (oo : OpenOpts) (l0 : Log) (h : Log.open [] oo = .ok l0) :
    l0.wNextTime = 0 := by
  rw [open_nil h]

theorem TimeCarry.pubTimesOK {l : Log} {hw : Int} {op : Op} (hc : TimeCarry l hw)
    (hmono : PubMonoOp hw op) : PubTimesOK l op := by
  cases op with
  | publish b =>
    exact fun _ => ⟨hmono.1, fun t ht => ⟨Int.le_trans hc.2.1 (hmono.2 t ht),
      Int.le_trans hc.1 (hmono.2 t ht), fun m hm => Int.le_trans (hc.2.2 m hm) (hmono.2 t ht)⟩⟩
  | _ => trivial

theorem TimeCarry.loaded {l l' : Log} {hw : Int} (hc : TimeCarry l hw) (h : Loaded l l') :
    TimeCarry l' hw := by
  rw [TimeCarry, h.nextTime, h.abs]
  exact hc

theorem live_le_hwNext (l : Log) (hw : Int) (hwl : ∀ m ∈ (abs l).live, m.time ≤ hw) (op : Op)
    (hmono : PubMonoOp hw op) : ∀ m ∈ (specStep (abs l) l op).live, m.time ≤ hwNext hw op := by
  have hold : ∀ m ∈ (abs l).live, m.time ≤ hwNext hw op :=
    fun m hm => Int.le_trans (hwl m hm) (hwNext_ge hmono)
  rcases specStep_cases (abs l) l op with ⟨b, rfl, _, h⟩ | ⟨h, _⟩
  · intro m hmm
    rw [h] at hmm
    rcases List.mem_append.mp hmm with h | h
    · exact hold m h
    · apply le_lastTime hw b hmono.1
      rw [← stampSpec_times b (abs l).next]
      exact List.mem_map_of_mem h
  · exact fun m hmm => hold m (h.subset hmm)

/-- **The carry is kept by every step**, and it gives the publish hypothesis. -/
theorem timeCarry_step (l : Log) (hinv : Inv l) (hp : l.opts.params.times = true)
    (hti : TimesInv l) (hm : Spec.Monotone (abs l)) (hw : Int) (hc : TimeCarry l hw) (op : Op)
    (hpar : OpParams l.opts.params op) (hmono : PubMonoOp hw op) :
    PubTimesOK l op ∧ TimeCarry (stepOp l op) (hwNext hw op) := by
  have hpub := hc.pubTimesOK hmono
  have hle := hwNext_ge hmono
  have hlive : ∀ m ∈ (abs (stepOp l op)).live, m.time ≤ hwNext hw op := by
    rw [(step_inv_abs l hinv op).2]
    exact live_le_hwNext l hw hc.2.2 op hmono
  refine ⟨hpub, Int.le_trans hc.1 hle, ?_, hlive⟩
  obtain ⟨hw0, hwt, -⟩ := hc
  have hread := openWriter_time_le (timesInv_step l hinv hp hti hm op hpar hpub) hlive
  cases op with
  | publish b =>
    cases hro : l.opts.readonly with
    | true =>
      show (l.publish b).1.wNextTime ≤ lastTime hw b
      rw [publish_readonly hro]
      exact Int.le_trans hwt hle
    | false =>
      show (l.publish b).1.wNextTime ≤ lastTime hw b
      rw [publish_time l hinv b hro fun v pos =>
        stamp_times _ hp v b _ _ _ (hpub hro).1 (fun t ht => ((hpub hro).2 t ht).1)]
      exact lastTime_mono hwt b
  | delete o =>
    rcases delete_time l o with h | ⟨s, _, mv, _, h1, h2⟩
    · exact h ▸ hwt
    · exact h1 ▸ hread _ _ _ (Int.le_trans hwt hle) h2
  | consume off mc => exact (consume_loaded l hinv off mc).nextTime ▸ hwt
  | get off => exact (get_loaded l hinv off).nextTime ▸ hwt
  | gc => exact hwt
  | reopen rm mig rec oo =>
    revert hread
    simp only [stepOp]
    cases ho : Log.open (closedDisk l rm mig rec) oo with
    | err e => exact fun _ => hwt
    | ok l' =>
      intro hread
      rcases open_time _ _ _ ho with h | ⟨sd, h1, h2⟩
      · exact h ▸ hw0
      · exact h2 ▸ hread _ _ _ (Int.le_trans hw0 hle) h1

/-- **A history whose published times never decrease satisfies `TimesOKRun`.** -/
theorem timesOKRun_of_pubMono (l : Log) (hinv : Inv l) (hp : l.opts.params.times = true)
    (hti : TimesInv l) (hm : Spec.Monotone (abs l)) (hw : Int) (hc : TimeCarry l hw)
    (ops : List Op) (hsame : SameParams l.opts.params ops) (hmono : PubMono hw ops) :
    TimesOKRun l ops := by
  induction ops generalizing l hw with
  | nil => trivial
  | cons op rest ih =>
    obtain ⟨h1, h2⟩ := hsame
    obtain ⟨k1, k2⟩ := hmono
    obtain ⟨hpub, hc'⟩ := timeCarry_step l hinv hp hti hm hw hc op h1 k1
    have hs := step_params l op h1
    exact ⟨hpub, ih (stepOp l op) (step_inv_abs l hinv op).1 (by rw [hs]; exact hp)
      (timesInv_step l hinv hp hti hm op h1 hpub) (monotone_step l hinv hm op hpub)
      (hwNext hw op) hc' (by rw [hs]; exact h2) k2⟩

/-- **C10 for monotone histories**: after any history from an empty directory that keeps the
index configuration and whose published times are non-negative and never decrease —
a condition on the operation list alone — `GetByTime` returns the first live message
whose time is not before `t`. -/
theorem getByTime_ok_mono (oo : OpenOpts) (ops : List Op) (hsame : SameParams oo.opts.params ops)
    (hmono : PubMono 0 ops) (t : Int) : ∀ l0, Log.open [] oo = .ok l0 →
    Spec.GetByTimeOK (runOps l0 ops).opts.params.times (abs (runOps l0 ops)) t
      ((runOps l0 ops).getByTime t).2 := by
  intro l0 ho
  refine getByTime_ok_run' oo ops hsame t l0 ho fun hp => ?_
  obtain ⟨hinv, habs, hopts⟩ := open_nil_spec oo l0 ho
  refine timesOKRun_of_pubMono l0 hinv hp (timesInv_open_empty oo l0 ho)
    (by rw [habs]; exact monotone_empty) 0 ⟨Int.le_refl _, ?_, ?_⟩ ops (by rw [hopts]; exact hsame)
    hmono
  · rw [open_empty_time oo l0 ho]; exact Int.le_refl _
  · rw [habs]; exact List.forall_mem_nil _

end Klev
