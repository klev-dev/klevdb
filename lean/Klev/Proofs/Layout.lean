/-
Files at record level: positions are strictly increasing, an index that names the
positions of the records (`ItemsFor`) leads every read to the record it names.
-/
import Klev.Model
import Klev.Proofs.IndexSearch
namespace Klev

/- Instance search reaches these only after the order-based routes, which is slow to check
wherever a `simp` meets `==` on keys or hashes; so they are named here. -/
instance instLawfulBEqBytes : LawfulBEq (List UInt8) := @List.instLawfulBEq UInt8 _ instLawfulBEq
instance instReflBEqBytes : ReflBEq (List UInt8) := instLawfulBEqBytes.toReflBEq
instance instReflBEqHash : ReflBEq UInt64 := (instLawfulBEq : LawfulBEq UInt64).toReflBEq

theorem dropWhile_eq_drop {α : Type} (p : α → Bool) (l : List α) (k : Nat) (hk : k < l.length)
    (hlo : ∀ j (hj : j < k), p (l[j]'(Nat.lt_trans hj hk)) = true) (hk0 : p l[k] = false) :
    l.dropWhile p = l.drop k := by
  rw [List.dropWhile_eq_drop_findIdx_not,
    (List.findIdx_eq hk).mpr ⟨by simp [hk0], fun j hj => by simp [hlo j hj]⟩]

theorem takeWhile_all {α : Type} (p : α → Bool) (l : List α) (h : ∀ x ∈ l, p x = true) :
    l.takeWhile p = l := by
  rw [List.takeWhile_eq_take_findIdx_not, List.findIdx_eq_length_of_false (by simpa using h),
    List.take_length]

theorem map_eq_getElem {α β γ : Type} {f : α → γ} {g : β → γ} {l₁ : List α} {l₂ : List β}
    (h : l₁.map f = l₂.map g) :
    l₁.length = l₂.length ∧ ∀ k (h1 : k < l₁.length) (h2 : k < l₂.length), f l₁[k] = g l₂[k] := by
  have hl : l₁.length = l₂.length := by simpa using congrArg List.length h
  refine ⟨hl, ?_⟩
  intro k h1 h2
  have := congrArg (fun l => l[k]?) h
  simp only [List.getElem?_map, List.getElem?_eq_getElem h1, List.getElem?_eq_getElem h2,
    Option.map_some, Option.some.injEq] at this
  exact this

theorem layoutFrom_map_snd (v : Ver) : ∀ (p : Int) (recs : List Msg),
    (layoutFrom v p recs).map (·.2) = recs := by
  intro p recs
  induction recs generalizing p with
  | nil => rfl
  | cons m ms ih => simp [layoutFrom, ih]

theorem layout_map_snd (v : Ver) (recs : List Msg) : (layout v recs).map (·.2) = recs :=
  layoutFrom_map_snd v _ recs

theorem layout_length (v : Ver) (recs : List Msg) : (layout v recs).length = recs.length := by
  simpa using congrArg List.length (layout_map_snd v recs)

theorem layoutFrom_ge (v : Ver) : ∀ (p : Int) (recs : List Msg),
    ∀ pm ∈ layoutFrom v p recs, p ≤ pm.1 := by
  intro p recs
  induction recs generalizing p with
  | nil => intro pm h; cases h
  | cons m ms ih =>
    intro pm h
    simp only [layoutFrom, List.mem_cons] at h
    rcases h with rfl | h
    · exact Int.le_refl _
    · have := ih _ pm h
      have := recSize_pos v m
      omega

theorem layoutFrom_sorted (v : Ver) : ∀ (p : Int) (recs : List Msg),
    (layoutFrom v p recs).Pairwise (fun a b => a.1 < b.1) := by
  intro p recs
  induction recs generalizing p with
  | nil => simp [layoutFrom]
  | cons m ms ih =>
    simp only [layoutFrom, List.pairwise_cons]
    refine ⟨?_, ih _⟩
    intro pm h
    have := layoutFrom_ge v _ ms pm h
    have := recSize_pos v m
    omega

theorem layout_sorted (v : Ver) (recs : List Msg) :
    (layout v recs).Pairwise (fun a b => a.1 < b.1) := layoutFrom_sorted v _ recs

theorem layoutFrom_append (v : Ver) : ∀ (a b : List Msg) (p : Int),
    layoutFrom v p (a ++ b) = layoutFrom v p a ++ layoutFrom v (sizeFrom v p a) b := by
  intro a
  induction a with
  | nil => intro b p; rfl
  | cons m ms ih => intro b p; simp [layoutFrom, sizeFrom, ih]

theorem sizeFrom_append (v : Ver) : ∀ (r e : List Msg) (p : Int),
    sizeFrom v p (r ++ e) = sizeFrom v (sizeFrom v p r) e := by
  intro r
  induction r with
  | nil => intro e p; rfl
  | cons m r ih => intro e p; simp only [List.cons_append, sizeFrom]; exact ih e _

theorem sizeFrom_ge (v : Ver) : ∀ (e : List Msg) (p : Int), p ≤ sizeFrom v p e := by
  intro e
  induction e with
  | nil => intro p; exact Int.le_refl _
  | cons m e ih =>
    intro p
    have := ih (p + recSize v m)
    have := recSize_pos v m
    simp only [sizeFrom]; omega

theorem layoutFrom_getElem_fst (v : Ver) : ∀ (ms : List Msg) (p : Int) (j : Nat)
    (hj : j < (layoutFrom v p ms).length),
    ((layoutFrom v p ms)[j]).1 = sizeFrom v p (ms.take j) := by
  intro ms
  induction ms with
  | nil => intro p j hj; cases hj
  | cons m ms ih =>
    intro p j hj
    cases j with
    | zero => rfl
    | succ j => exact ih (p + recSize v m) j (Nat.lt_of_succ_lt_succ hj)

theorem layout_getElem_snd (v : Ver) (recs : List Msg) (k : Nat) (h1 : k < (layout v recs).length)
    (h2 : k < recs.length) : ((layout v recs)[k]).2 = recs[k] :=
  (map_eq_getElem (g := id) ((layout_map_snd v recs).trans (List.map_id recs).symm)).2 k h1 h2

/-- `its` lists, in order, the offset and the position of every record of the file. -/
def ItemsFor (v : Ver) (recs : List Msg) (its : List Item) : Prop :=
  its.map (fun it => (it.off, it.pos)) = (layout v recs).map (fun pm => (pm.2.off, pm.1))

theorem ItemsFor.length {v : Ver} {recs : List Msg} {its : List Item} (h : ItemsFor v recs its) :
    its.length = recs.length :=
  (map_eq_getElem h).1.trans (layout_length v recs)

theorem ItemsFor.getElem {v : Ver} {recs : List Msg} {its : List Item} (h : ItemsFor v recs its)
    (k : Nat) (h1 : k < its.length) :
    ∃ (h2 : k < (layout v recs).length) (h3 : k < recs.length),
      (its[k]).off = (recs[k]).off ∧ (its[k]).pos = ((layout v recs)[k]).1 := by
  have hl := (map_eq_getElem h).1
  have h2 : k < (layout v recs).length := hl ▸ h1
  have h3 : k < recs.length := layout_length v recs ▸ h2
  have := (map_eq_getElem h).2 k h1 h2
  simp only [Prod.mk.injEq] at this
  refine ⟨h2, h3, ?_, this.2⟩
  rw [this.1, layout_getElem_snd v recs k h2 h3]

theorem ItemsFor.map_off {v : Ver} {recs : List Msg} {its : List Item} (h : ItemsFor v recs its) :
    its.map Item.off = recs.map Msg.off := by
  have := congrArg (List.map Prod.fst) h
  simp only [List.map_map] at this
  rw [← layout_map_snd v recs, List.map_map]
  exact this

theorem ItemsFor.lowerBound_off {v : Ver} {recs : List Msg} {its : List Item}
    (h : ItemsFor v recs its) (x : Int) :
    lowerBound Item.off its x = lowerBound Msg.off recs x := by
  have := lowerBound_map (key := fun a => a) Item.off its x
  rw [h.map_off, lowerBound_map] at this
  exact this.symm

theorem deriveFrom_itemsFor (p : Params) : ∀ (ts : Int) (L : List (Int × Msg)),
    (deriveFrom p ts L).map (fun it => (it.off, it.pos)) = L.map (fun pm => (pm.2.off, pm.1)) := by
  intro ts L
  induction L generalizing ts with
  | nil => rfl
  | cons pm rest ih =>
    obtain ⟨pos, m⟩ := pm
    simp [deriveFrom, newItem, ih]

theorem derive_itemsFor (p : Params) (v : Ver) (recs : List Msg) :
    ItemsFor v recs (derive p v recs) := deriveFrom_itemsFor p 0 _

theorem ItemsFor.sorted {v : Ver} {recs : List Msg} {its : List Item} (h : ItemsFor v recs its)
    (hs : recs.Pairwise (fun a b => a.off < b.off)) : SortedOff its := by
  rw [SortedOff, ← List.pairwise_map (f := Item.off) (R := fun a b => a < b), h.map_off,
    List.pairwise_map]
  exact hs

theorem readAt_item {s : Seg} {its : List Item} (h : ItemsFor s.ver s.recs its)
    (k : Nat) (h1 : k < its.length) :
    ∃ h3 : k < s.recs.length, readAt s (its[k]).pos = some (s.recs[k]) := by
  obtain ⟨h2, h3, _, hp⟩ := h.getElem k h1
  refine ⟨h3, ?_⟩
  rw [readAt, find?_key_eq_some (key := Prod.fst) (layout_sorted s.ver s.recs) h2 hp.symm]
  simp [layout_getElem_snd s.ver s.recs k h2 h3]

theorem consumeFile_item {s : Seg} {its : List Item} (h : ItemsFor s.ver s.recs its)
    (k : Nat) (h1 : k < its.length) (last : Item) (hl : its.getLast? = some last) (mc : Nat) :
    consumeFile s (its[k]).pos last.pos mc = (s.recs.drop k).take mc := by
  obtain ⟨h2, h3, _, hp⟩ := h.getElem k h1
  obtain ⟨hn, rfl⟩ := getLast?_eq_getElem hl
  obtain ⟨hn2, _, _, hlp⟩ := h.getElem (its.length - 1) hn
  have hs := layout_sorted s.ver s.recs
  rw [consumeFile, dropWhile_eq_drop _ _ k h2 ?_ (by simp [hp]), takeWhile_all, List.map_take,
    List.map_drop, layout_map_snd]
  · -- the last item names the last, hence the largest, position
    intro pm hm
    obtain ⟨i, hi, rfl⟩ := List.getElem_of_mem (List.mem_of_mem_drop hm)
    have hlen := (map_eq_getElem h).1
    have := key_le_of_le (key := Prod.fst) (hs.imp Int.le_of_lt) (i := i) (j := its.length - 1)
      (Nat.le_sub_one_of_lt (hlen ▸ hi)) hn2
    rw [hlp]
    exact decide_eq_true this
  · intro j hj
    have := List.pairwise_iff_getElem.mp hs j k (Nat.lt_trans hj h2) h2 hj
    simp only [bne_iff_ne, ne_eq, hp]
    exact Int.ne_of_lt this

end Klev
