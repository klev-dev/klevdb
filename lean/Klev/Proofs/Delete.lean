/-
`Log.delete` keeps the invariant and removes from the L0 state exactly the messages it
reports, which were live and requested — the step theorem behind C12 (and C01, C02, C17).
-/
import Klev.Proofs.Publish
namespace Klev

theorem minOff_cons (a : Int) (xs : List Int) : (a :: xs).min? = some (minOff (a :: xs)) := rfl

theorem minOff_le (xs : List Int) : ∀ x ∈ xs, minOff xs ≤ x := by
  cases xs with
  | nil => exact List.forall_mem_nil _
  | cons a rest => exact (List.min?_eq_some_iff.mp (minOff_cons a rest)).2

theorem minOff_mem (xs : List Int) (h : xs ≠ []) : minOff xs ∈ xs := by
  cases xs with
  | nil => exact absurd rfl h
  | cons a rest => exact (List.min?_eq_some_iff.mp (minOff_cons a rest)).1

theorem minOff_head {sub : List Msg} (hs : sub.Pairwise (fun a b => a.off < b.off)) {m : Msg}
    (h : sub.head? = some m) : minOff (sub.map (·.off)) = m.off := by
  cases sub with
  | nil => cases h
  | cons a as =>
    cases h
    have hle := minOff_le ((m :: as).map (·.off)) m.off List.mem_cons_self
    obtain ⟨x, hx, hxo⟩ := List.mem_map.mp (minOff_mem ((m :: as).map (·.off)) (List.cons_ne_nil _ _))
    rcases List.mem_cons.mp hx with rfl | hx
    · exact hxo.symm
    · have := (List.pairwise_cons.mp hs).1 x hx
      omega

theorem segShapeOK_rewritten {b : Int} {recs sub : List Msg} (h : SegShapeOK (b, recs))
    (hsub : sub.Sublist recs) (hne : sub ≠ []) :
    SegShapeOK (minOff (sub.map (·.off)), sub) ∧ b ≤ minOff (sub.map (·.off)) ∧
    (∃ m ∈ sub, m.off = minOff (sub.map (·.off))) := by
  obtain ⟨m0, hm0, hm0o⟩ := List.mem_map.mp
    (minOff_mem (sub.map (·.off)) (fun he => hne (List.map_eq_nil_iff.mp he)))
  have hb : b ≤ minOff (sub.map (·.off)) := hm0o ▸ h.2.1 m0 (hsub.subset hm0)
  exact ⟨⟨h.1.sublist hsub, fun m hm => minOff_le _ _ (List.mem_map.mpr ⟨m, hm, rfl⟩),
    Int.le_trans h.2.2 hb⟩, hb, m0, hm0, hm0o⟩

theorem shapeR_left_mono {a : Int × List Msg} {b b' : Int} {r r' : List Msg} (h : ShapeR a (b, r))
    (hb : b ≤ b') : ShapeR a (b', r') :=
  ⟨Int.lt_of_lt_of_le h.1 hb, fun m hm => Int.lt_of_lt_of_le (h.2 m hm) hb⟩

theorem shapeR_right_sub {y : Int × List Msg} {b b' : Int} {recs sub : List Msg}
    (h : ShapeR (b, recs) y) (hsub : sub.Sublist recs)
    (hb : ∃ m ∈ sub, m.off = b') : ShapeR (b', sub) y := by
  obtain ⟨m0, hm0, hm0o⟩ := hb
  exact ⟨hm0o ▸ h.2 m0 (hsub.subset hm0), fun m hm => h.2 m (hsub.subset hm)⟩

/-- What a rewrite makes of segment `(b, recs)`: the survivors `sub` under their lowest offset
(nothing if none survives), then, if `fresh`, a new empty head at the segment's next offset. -/
def rewriteAt (b : Int) (recs sub : List Msg) (fresh : Bool) : Shape :=
  (if sub = [] then [] else [(minOff (sub.map (·.off)), sub)]) ++
    (if fresh then [(recsNext b recs, [])] else [])

theorem shapeOK_rewriteAt (pre post : Shape) (b : Int) (recs sub : List Msg) (fresh : Bool)
    (h : ShapeOK (pre ++ ((b, recs) :: post))) (hsub : sub.Sublist recs)
    (hf : fresh = true → post = []) (hne : rewriteAt b recs sub fresh ++ post ≠ []) :
    ShapeOK (pre ++ (rewriteAt b recs sub fresh ++ post)) := by
  rw [shapeOK_append_iff _ _ (List.cons_ne_nil _ _)] at h
  obtain ⟨hA, hpw, hab, hB⟩ := h
  have hseg : SegShapeOK (b, recs) :=
    ⟨hB.sorted _ List.mem_cons_self, hB.lower _ List.mem_cons_self, hB.base0 _ List.mem_cons_self⟩
  have hge := recsNext_ge b recs hseg.2.1
  have hgt := recsNext_gt b recs hseg.1
  have hfr : SegShapeOK (recsNext b recs, []) :=
    ⟨List.Pairwise.nil, fun m hm => (by cases hm), Int.le_trans hseg.2.2 hge⟩
  rw [shapeOK_append_iff _ _ hne]
  refine ⟨hA, hpw, ?_, ?_⟩
  · -- every new base is at or above the old one
    intro a ha y hy
    have hold := hab a ha (b, recs) List.mem_cons_self
    rcases List.mem_append.mp hy with h1 | h1
    · unfold rewriteAt at h1
      rcases List.mem_append.mp h1 with h2 | h2
      · by_cases he : sub = []
        · rw [if_pos he] at h2
          cases h2
        · rw [if_neg he, List.mem_singleton] at h2
          rw [h2]
          exact shapeR_left_mono hold (segShapeOK_rewritten hseg hsub he).2.1
      · cases fresh with
        | true => rw [List.mem_singleton.mp h2]; exact shapeR_left_mono hold hge
        | false => cases h2
    · exact hab a ha y (List.mem_cons_of_mem _ h1)
  · unfold rewriteAt at hne ⊢
    by_cases he : sub = []
    · rw [if_pos he, List.nil_append] at hne ⊢
      cases fresh with
      | true => rw [hf rfl]; exact (shapeOK_singleton _).mpr hfr
      | false =>
        rw [if_neg Bool.false_ne_true, List.nil_append] at hne ⊢
        exact ((shapeOK_append_iff [(b, recs)] post hne).mp hB).2.2.2
    · rw [if_neg he]
      obtain ⟨hnew, _, hwit⟩ := segShapeOK_rewritten hseg hsub he
      cases fresh with
      | true =>
        rw [hf rfl, if_pos rfl, List.append_nil]
        refine (shapeOK_snoc_iff [_] _).mpr ⟨?_, List.pairwise_singleton _ _, ?_, hfr⟩
        · intro br hbr; rw [List.mem_singleton.mp hbr]; exact ⟨hnew, he⟩
        · intro br hbr
          rw [List.mem_singleton.mp hbr]
          obtain ⟨m0, hm0, hm0o⟩ := hwit
          exact ⟨by rw [← hm0o]; exact hgt m0 (hsub.subset hm0), fun m hm => hgt m (hsub.subset hm)⟩
      | false =>
        rw [if_neg Bool.false_ne_true, List.append_nil]
        by_cases hp : post = []
        · rw [hp, List.append_nil]; exact (shapeOK_singleton _).mpr hnew
        · obtain ⟨_, _, hsp, hpost⟩ := (shapeOK_append_iff [(b, recs)] post hp).mp hB
          refine (shapeOK_append_iff [_] post hp).mpr ⟨?_, List.pairwise_singleton _ _, ?_, hpost⟩
          · intro br hbr; rw [List.mem_singleton.mp hbr]; exact ⟨hnew, he⟩
          · intro a ha y hy
            rw [List.mem_singleton.mp ha]
            exact shapeR_right_sub (hsp (b, recs) (List.mem_singleton.mpr rfl) y hy) hsub hwit

theorem flat_append (a b : Shape) : flat (a ++ b) = flat a ++ flat b := by
  unfold flat; exact List.flatMap_append

theorem flat_singleton (br : Int × List Msg) : flat [br] = br.2 := by
  unfold flat; simp

theorem flat_rewriteAt (pre post : Shape) (b : Int) (recs sub : List Msg) (fresh : Bool) :
    flat (pre ++ (rewriteAt b recs sub fresh ++ post)) = flat pre ++ sub ++ flat post := by
  have h : flat (rewriteAt b recs sub fresh) = sub := by
    unfold rewriteAt
    by_cases he : sub = [] <;> cases fresh <;> simp [he, flat]
  rw [flat_append, flat_append, h, List.append_assoc]

theorem getLast?_append_ne {α : Type} (a b : List α) (hb : b ≠ []) :
    (a ++ b).getLast? = b.getLast? := by
  rw [List.getLast?_append]
  cases h : b.getLast? with
  | none => exact absurd (List.getLast?_eq_none_iff.mp h) hb
  | some x => rfl

theorem shapeNext_append (A B : Shape) (hB : B ≠ []) : shapeNext (A ++ B) = shapeNext B := by
  unfold shapeNext
  rw [getLast?_append_ne _ _ hB]

theorem shapeNext_rewriteAt (pre post : Shape) (b : Int) (recs sub : List Msg) (fresh : Bool)
    (hl : post = [] → fresh = false → sub ≠ [] ∧ sub.getLast? = recs.getLast?) :
    shapeNext (pre ++ (rewriteAt b recs sub fresh ++ post)) = shapeNext (pre ++ (b, recs) :: post) := by
  by_cases hp : post = []
  · subst hp
    rw [List.append_nil, shapeNext_snoc]
    unfold rewriteAt
    cases fresh with
    | true =>
      rw [if_pos rfl, ← List.append_assoc, shapeNext_snoc]
      rfl
    | false =>
      obtain ⟨hne, hlast⟩ := hl rfl rfl
      rw [if_neg hne, if_neg Bool.false_ne_true, List.append_nil, shapeNext_snoc]
      have hs : ∃ m, sub.getLast? = some m := ⟨_, List.getLast?_eq_some_getLast hne⟩
      obtain ⟨m, hm⟩ := hs
      simp only [recsNext, hm, ← hlast]
  · rw [shapeNext_append _ _ (List.append_ne_nil_of_right_ne_nil _ hp), shapeNext_append _ _ hp,
      shapeNext_append pre _ (List.cons_ne_nil _ _), show (b, recs) :: post = [(b, recs)] ++ post from rfl,
      shapeNext_append _ _ hp]

/-- Only the one segment loses records: offsets are unique across segments. -/
theorem removeAll_flat (pre post : Shape) (b : Int) (recs : List Msg) (d : Msg → Bool)
    (h : ShapeOK (pre ++ ([(b, recs)] ++ post))) :
    Spec.removeAll (flat (pre ++ ([(b, recs)] ++ post))) (recs.filter d) =
      flat pre ++ recs.filter (fun m => !d m) ++ flat post := by
  unfold Spec.removeAll
  rw [flat_append, flat_append, flat_singleton, List.filter_append, List.filter_append]
  have hpw := h.order
  rw [List.pairwise_append] at hpw
  obtain ⟨_, hpw2, hcross⟩ := hpw
  rw [List.pairwise_append] at hpw2
  obtain ⟨_, _, hcross2⟩ := hpw2
  have hlow : ∀ m ∈ recs, b ≤ m.off := h.lower (b, recs) (List.mem_append_right _ List.mem_cons_self)
  have hkeep : ∀ L : List Msg, (∀ m ∈ L, m ∉ recs) →
      L.filter (fun m => !(recs.filter d).contains m) = L := by
    intro L hL
    rw [List.filter_eq_self]
    intro m hm
    simp only [Bool.not_eq_true', List.contains_eq_mem, decide_eq_false_iff_not]
    exact fun hmr => hL m hm (List.mem_filter.mp hmr).1
  have h1 := hkeep (flat pre) (fun m hm hmr => by
    obtain ⟨j, hj, hmj⟩ := mem_flat hm
    have hlt := (hcross (pre[j]) (List.getElem_mem hj) (b, recs) List.mem_cons_self).2 m hmj
    exact absurd (hlow m hmr) (Int.not_le.mpr hlt))
  have h3 := hkeep (flat post) (fun m hm hmr => by
    obtain ⟨j, hj, hmj⟩ := mem_flat hm
    have hlt := (hcross2 (b, recs) List.mem_cons_self (post[j]) (List.getElem_mem hj)).2 m hmr
    have hmem := List.mem_append_right pre (List.mem_append_right [(b, recs)] (List.getElem_mem hj))
    exact absurd (h.lower (post[j]) hmem m hmj) (Int.not_le.mpr hlt))
  have h2 : recs.filter (fun m => !(recs.filter d).contains m) = recs.filter (fun m => !d m) := by
    apply List.filter_congr
    intro m hm
    simp only [List.contains_eq_mem, List.mem_filter, hm, true_and, Bool.decide_eq_true]
  rw [h1, h2, h3, List.append_assoc]

theorem delete_out (l : Log) (offs : List Int) :
    l.opts.readonly = true ∧ l.delete offs = (l, .err .readonly) ∨
    l.opts.readonly = false ∧
      (offs = [] ∧ l.delete offs = (l, .ok ([], 0)) ∨
       offs ≠ [] ∧
        ((∃ e, deleteTarget l offs = .error e ∧ l.delete offs = (l, .err e)) ∨
         ∃ i, deleteTarget l offs = .ok i ∧
          (l.segs[i]? = none ∧ l.delete offs = (l, .err .panic) ∨
           ∃ s mv, l.segs[i]? = some s ∧ mv = (if l.opts.keep = true then s.ver else l.opts.nsv) ∧
            l.delete offs =
              if (rewrite l.opts.params s offs mv mv).deleted.isEmpty = true then (l, .ok ([], 0))
              else if (i + 1 == l.segs.length) = true then
                (swapHead l i s (rewrite l.opts.params s offs mv mv),
                  .ok ((rewrite l.opts.params s offs mv mv).deleted,
                    (rewrite l.opts.params s offs mv mv).delSize))
              else
                (swapReader l i (rewrite l.opts.params s offs mv mv),
                  .ok ((rewrite l.opts.params s offs mv mv).deleted,
                    (rewrite l.opts.params s offs mv mv).delSize))))) := by
  -- the result is named first, so that the walk through `Log.delete` sees one copy of it
  generalize hout : l.delete offs = out
  unfold Log.delete at hout
  by_cases hro : l.opts.readonly = true
  · rw [if_pos hro] at hout; exact Or.inl ⟨hro, hout.symm⟩
  rw [if_neg hro] at hout
  refine Or.inr ⟨Bool.eq_false_iff.mpr hro, ?_⟩
  by_cases he : offs = []
  · rw [if_pos (by rw [he]; rfl)] at hout; exact Or.inl ⟨he, hout.symm⟩
  rw [if_neg (by rw [List.isEmpty_iff]; exact he)] at hout
  refine Or.inr ⟨he, ?_⟩
  cases ht : deleteTarget l offs with
  | error e => rw [ht] at hout; exact Or.inl ⟨e, rfl, hout.symm⟩
  | ok i =>
    rw [ht] at hout
    refine Or.inr ⟨i, rfl, ?_⟩
    cases hs : l.segs[i]? with
    | none => simp only [hs] at hout; exact Or.inl ⟨rfl, hout.symm⟩
    | some s => simp only [hs] at hout; exact Or.inr ⟨s, _, rfl, rfl, hout.symm⟩

theorem mem_replaceAt {segs : List Seg} {i : Nat} {new : List Seg} {s : Seg}
    (h : s ∈ replaceAt segs i new) : s ∈ segs ∨ s ∈ new := by
  unfold replaceAt at h
  rcases List.mem_append.mp h with h1 | h1
  · rcases List.mem_append.mp h1 with h2 | h2
    · exact Or.inl (List.mem_of_mem_take h2)
    · exact Or.inr h2
  · exact Or.inl (List.mem_of_mem_drop h1)

/-- The segments that take a rewritten segment's place: `X` with the survivors `sub` (nothing if
none is left), then the fresh head `F` if `fresh`. -/
def swapSegs (sub : List Msg) (X F : Seg) (fresh : Bool) : List Seg :=
  (if sub = [] then [] else [X]) ++ if fresh then [F] else []

theorem mem_swapSegs {sub : List Msg} {X F : Seg} {fresh : Bool} {t : Seg}
    (h : t ∈ swapSegs sub X F fresh) : sub ≠ [] ∧ t = X ∨ fresh = true ∧ t = F := by
  rcases List.mem_append.mp h with h | h
  · by_cases he : sub = []
    · rw [if_pos he] at h; cases h
    · rw [if_neg he] at h; exact Or.inl ⟨he, List.mem_singleton.mp h⟩
  · cases fresh with
    | true => exact Or.inr ⟨rfl, List.mem_singleton.mp h⟩
    | false => cases h

theorem getLast?_swapSegs (sub : List Msg) (X F : Seg) (fresh : Bool) :
    (swapSegs sub X F fresh).getLast? =
      if fresh = true then some F else if sub = [] then none else some X := by
  unfold swapSegs
  cases fresh with
  | true => rw [if_pos rfl, if_pos rfl, List.getLast?_concat]
  | false =>
    rw [if_neg Bool.false_ne_true, if_neg Bool.false_ne_true, List.append_nil]
    by_cases he : sub = []
    · rw [if_pos he, if_pos he]; rfl
    · rw [if_neg he, if_neg he]; rfl

theorem shape_swapSegs {sub : List Msg} {X F : Seg} {fresh : Bool} (b : Int) (recs : List Msg)
    (hXb : X.base = minOff (sub.map (·.off))) (hXr : X.recs = sub)
    (hF : fresh = true → F.base = recsNext b recs ∧ F.recs = []) :
    shape (swapSegs sub X F fresh) = rewriteAt b recs sub fresh := by
  rw [swapSegs, shape_append, rewriteAt]
  congr 1
  · by_cases he : sub = []
    · rw [if_pos he, if_pos he]; rfl
    · rw [if_neg he, if_neg he]
      show [(X.base, X.recs)] = _
      rw [hXb, hXr]
  · cases hf : fresh with
    | false => rfl
    | true =>
      show [(F.base, F.recs)] = _
      rw [(hF hf).1, (hF hf).2]
      rfl

/-- The log after Delete has rewritten segment `i` to `rw`: the survivors (reopened by the writer
if `reopen`) and a fresh empty head if `fresh` take its place. At the head a fresh one opens
when nothing survives or the tail was deleted; else the survivors are reopened. -/
def swapped (l : Log) (i : Nat) (rw : Rewrite) (reopen fresh : Bool) : Log :=
  ⟨l.opts,
    replaceAt l.segs i (swapSegs rw.survive
      (if reopen then (openWriter l.opts (rewrittenSeg l.opts.params rw) l.wNextTime).1
       else rewrittenSeg l.opts.params rw)
      (freshSeg l.opts l.wNextOff) fresh),
    if reopen then (openWriter l.opts (rewrittenSeg l.opts.params rw) l.wNextTime).2.1 else l.wNextOff,
    if reopen then (openWriter l.opts (rewrittenSeg l.opts.params rw) l.wNextTime).2.2 else l.wNextTime⟩

theorem swapReader_eq (l : Log) (i : Nat) (rw : Rewrite) :
    swapReader l i rw = swapped l i rw false false := by
  unfold swapReader swapped swapSegs
  by_cases he : rw.survive = []
  · rw [if_pos (by rw [he]; rfl), if_pos he]; rfl
  · rw [if_neg (by rw [List.isEmpty_iff]; exact he), if_neg he]; rfl

theorem swapHead_eq (l : Log) (i : Nat) (s : Seg) (rw : Rewrite) :
    swapHead l i s rw = swapped l i rw (!(rw.survive.isEmpty || tailDeleted s rw))
      (rw.survive.isEmpty || tailDeleted s rw) := by
  unfold swapHead swapped swapSegs
  by_cases he : rw.survive = []
  · rw [if_pos (by rw [he]; rfl), if_pos he, openWriter_fresh, he]; rfl
  · have hie : rw.survive.isEmpty = false := List.isEmpty_eq_false_iff.mpr he
    rw [if_neg (by rw [hie]; exact Bool.false_ne_true), if_neg he, hie]
    cases tailDeleted s rw with
    | true => rw [if_pos rfl, openWriter_fresh]; rfl
    | false => rfl

theorem mem_swapped {l : Log} {i : Nat} {rw : Rewrite} {reopen fresh : Bool} {t : Seg}
    (h : t ∈ (swapped l i rw reopen fresh).segs) :
    t ∈ l.segs ∨ t = freshSeg l.opts l.wNextOff ∨
      rw.survive ≠ [] ∧
        t = if reopen then (openWriter l.opts (rewrittenSeg l.opts.params rw) l.wNextTime).1
            else rewrittenSeg l.opts.params rw := by
  rcases mem_replaceAt h with h | h
  · exact Or.inl h
  rcases mem_swapSegs h with ⟨he, h⟩ | ⟨_, h⟩
  · exact Or.inr (Or.inr ⟨he, h⟩)
  · exact Or.inr (Or.inl h)

theorem delete_made (l : Log) (offs : List Int) :
    (l.delete offs).1 = l ∨
    ∃ s ∈ l.segs, ∃ mv i reopen fresh,
      (l.delete offs).1 = swapped l i (rewrite l.opts.params s offs mv mv) reopen fresh ∧
      (reopen = true → (rewrite l.opts.params s offs mv mv).survive ≠ []) := by
  rcases delete_out l offs with ⟨_, h⟩ | ⟨_, ⟨_, h⟩ | ⟨_, ⟨e, _, h⟩ | ⟨i, _, ⟨_, h⟩ | ⟨s, mv, hs, _, h⟩⟩⟩⟩
  · rw [h]; exact Or.inl rfl
  · rw [h]; exact Or.inl rfl
  · rw [h]; exact Or.inl rfl
  · rw [h]; exact Or.inl rfl
  rw [h]
  by_cases hd : (rewrite l.opts.params s offs mv mv).deleted.isEmpty = true
  · rw [if_pos hd]; exact Or.inl rfl
  rw [if_neg hd]
  refine Or.inr ⟨s, List.mem_of_getElem? hs, mv, i, ?_⟩
  by_cases hlast : (i + 1 == l.segs.length) = true
  · rw [if_pos hlast, swapHead_eq]
    exact ⟨_, _, rfl, fun h he => by rw [he] at h; exact Bool.false_ne_true h⟩
  · rw [if_neg hlast, swapReader_eq]
    exact ⟨_, _, rfl, fun h => nomatch h⟩

theorem delete_opts (l : Log) (offs : List Int) : (l.delete offs).1.opts = l.opts := by
  rcases delete_made l offs with h | ⟨_, _, _, _, _, _, h, _⟩
  · rw [h]
  · rw [h]; rfl

theorem delete_forall (Q : Seg → Prop) (l : Log) (offs : List Int)
    (hQ : ∀ s ∈ l.segs, Q s)
    (hfresh : Q (freshSeg l.opts l.wNextOff))
    (hrw : ∀ s ∈ l.segs, ∀ mv, (rewrite l.opts.params s offs mv mv).survive ≠ [] →
      Q (rewrittenSeg l.opts.params (rewrite l.opts.params s offs mv mv)) ∧
      Q (openWriter l.opts (rewrittenSeg l.opts.params (rewrite l.opts.params s offs mv mv))
        l.wNextTime).1) :
    ∀ s' ∈ (l.delete offs).1.segs, Q s' := by
  rcases delete_made l offs with h | ⟨s, hs, mv, i, reopen, fresh, h, _⟩
  · rw [h]
    exact hQ
  · rw [h]
    intro s' hs'
    rcases mem_swapped hs' with h1 | rfl | ⟨hne, rfl⟩
    · exact hQ s' h1
    · exact hfresh
    · cases reopen with
      | true => exact (hrw s hs mv hne).2
      | false => exact (hrw s hs mv hne).1

theorem delete_time (l : Log) (offs : List Int) :
    (l.delete offs).1.wNextTime = l.wNextTime ∨
    ∃ s ∈ l.segs, ∃ mv, (rewrite l.opts.params s offs mv mv).survive ≠ [] ∧
      (l.delete offs).1.wNextTime =
        (openWriter l.opts (rewrittenSeg l.opts.params (rewrite l.opts.params s offs mv mv))
          l.wNextTime).2.2 ∧
      (openWriter l.opts (rewrittenSeg l.opts.params (rewrite l.opts.params s offs mv mv))
          l.wNextTime).1 ∈ (l.delete offs).1.segs := by
  rcases delete_made l offs with h | ⟨s, hs, mv, i, reopen, fresh, h, hne⟩
  · rw [h]
    exact Or.inl rfl
  · rw [h]
    cases reopen with
    | false => exact Or.inl rfl
    | true =>
      refine Or.inr ⟨s, hs, mv, hne rfl, rfl, ?_⟩
      unfold swapped replaceAt swapSegs
      rw [if_neg (hne rfl)]
      simp

/-- Segment `s` gives way to `X` with its records minus those chosen by `d` (to nothing if none is
left), then, if `fresh`, to a fresh empty head. That one opens only at the head; without it the
head's last record must be kept and `X` be a proper head. -/
theorem swap_spec (l : Log) (hinv : Inv l) (hro : l.opts.readonly = false) (pre post : List Seg)
    (s : Seg) (hsegs : l.segs = pre ++ s :: post) (d : Msg → Bool) (sub : List Msg) (X : Seg)
    (fresh : Bool) (nTime : Int) (hsub : sub = s.recs.filter (fun m => !d m))
    (hXb : X.base = minOff (sub.map (·.off))) (hXr : X.recs = sub) (hXi : IdxOK X)
    (hfresh : fresh = true → post = [])
    (hlast : post = [] → fresh = false → HeadOK X ∧
      ∃ m, sub.getLast? = some m ∧ s.recs.getLast? = some m) :
    let new := swapSegs sub X (freshSeg l.opts l.wNextOff) fresh
    Inv ⟨l.opts, pre ++ new ++ post, l.wNextOff, nTime⟩ ∧
    abs ⟨l.opts, pre ++ new ++ post, l.wNextOff, nTime⟩ =
      ⟨Spec.removeAll (abs l).live (s.recs.filter d), (abs l).next⟩ := by
  intro new
  have hold : shape l.segs = shape pre ++ (s.base, s.recs) :: shape post := by
    rw [hsegs, shape_append]; rfl
  have hsh : shape new = rewriteAt s.base s.recs sub fresh :=
    shape_swapSegs s.base s.recs hXb hXr fun hf =>
      ⟨hinv.wNextOff_eq hro (h := s) (by rw [hsegs, hfresh hf]; exact List.getLast?_concat ..), rfl⟩
  have hnl : post = [] → ∃ h, new.getLast? = some h ∧ HeadOK h := fun hp => by
    rw [getLast?_swapSegs]
    cases hf : fresh with
    | true => exact ⟨_, rfl, [], rfl, _, rfl, rfl⟩
    | false =>
      obtain ⟨hX, m, hm, _⟩ := hlast hp hf
      rw [if_neg Bool.false_ne_true, if_neg (fun h0 => by rw [h0] at hm; cases hm)]
      exact ⟨X, rfl, hX⟩
  have hnewne : post = [] → new ≠ [] := fun hp hn => by
    obtain ⟨h, hh, _⟩ := hnl hp
    rw [hn] at hh
    cases hh
  have hshape : shape (pre ++ new ++ post) =
      shape pre ++ (rewriteAt s.base s.recs sub fresh ++ shape post) := by
    rw [shape_append, shape_append, hsh, List.append_assoc]
  have hnext : shapeNext (shape (pre ++ new ++ post)) = shapeNext (shape l.segs) := by
    rw [hshape, hold, shapeNext_rewriteAt]
    intro hp hf
    obtain ⟨_, m, h1, h2⟩ := hlast (List.map_eq_nil_iff.mp hp) hf
    exact ⟨fun h0 => (by rw [h0] at h1; cases h1), h1.trans h2.symm⟩
  refine ⟨⟨?_, ?_, fun _ => ?_, fun _ h hh => ?_⟩, ?_⟩
  · rw [hshape]
    refine shapeOK_rewriteAt _ _ _ _ _ _ (hold ▸ hinv.shape) (hsub ▸ List.filter_sublist)
      (fun hf => by rw [hfresh hf]; rfl) fun he => ?_
    obtain ⟨h1, h2⟩ := List.append_eq_nil_iff.mp he
    exact hnewne (List.map_eq_nil_iff.mp h2) (List.map_eq_nil_iff.mp (hsh ▸ h1))
  · intro t ht
    rcases List.mem_append.mp ht with h | h
    · rcases List.mem_append.mp h with h | h
      · exact hinv.idx t (hsegs ▸ List.mem_append_left _ h)
      · rcases mem_swapSegs h with ⟨_, rfl⟩ | ⟨_, rfl⟩
        · exact hXi
        · exact freshSeg_idxOK _ _
    · exact hinv.idx t (hsegs ▸ List.mem_append_right _ (List.mem_cons_of_mem _ h))
  · rw [hnext]; exact hinv.next hro
  · -- the head: the old one behind a reader, the last of `new` otherwise
    have hh : (pre ++ new ++ post).getLast? = some h := hh
    by_cases hp : post = []
    · obtain ⟨h', hh', hH⟩ := hnl hp
      rw [hp, List.append_nil, getLast?_append_ne _ _ (hnewne hp), hh'] at hh
      rw [← Option.some.inj hh]
      exact hH
    · rw [getLast?_append_ne _ _ hp] at hh
      refine hinv.head hro h ?_
      rw [hsegs, ← List.singleton_append, ← List.append_assoc, getLast?_append_ne _ _ hp]; exact hh
  · have hrem := removeAll_flat (shape pre) (shape post) s.base s.recs d (by
      rw [List.singleton_append, ← hold]; exact hinv.shape)
    rw [List.singleton_append, ← hold] at hrem
    show (⟨flat (shape (pre ++ new ++ post)), shapeNext (shape (pre ++ new ++ post))⟩ : Spec) =
      ⟨Spec.removeAll (flat (shape l.segs)) _, shapeNext (shape l.segs)⟩
    rw [hnext, hrem, ← hsub, hshape, flat_rewriteAt]

theorem segs_split (l : Log) (i : Nat) (hi : i < l.segs.length) :
    l.segs = l.segs.take i ++ l.segs[i] :: l.segs.drop (i + 1) := by
  rw [← List.drop_eq_getElem_cons hi, List.take_append_drop]

theorem rewrittenSeg_idxOK (p : Params) (rw : Rewrite) : IdxOK (rewrittenSeg p rw) := by
  refine ⟨?_, ?_⟩
  · intro its hi; simp [rewrittenSeg] at hi
  · intro f hf
    simp only [rewrittenSeg, Option.some.injEq] at hf
    subst hf
    exact derive_itemsFor _ _ _

theorem filter_getLast_of_last {α : Type} (l : List α) (p : α → Bool) (x : α)
    (hl : l.getLast? = some x) (hp : p x = true) : (l.filter p).getLast? = some x := by
  have hne : l ≠ [] := by intro he; rw [he] at hl; simp at hl
  have hd := List.dropLast_concat_getLast hne
  have hx : l.getLast hne = x := by
    have := List.getLast?_eq_some_getLast hne
    rw [hl] at this; simpa using this.symm
  rw [← hd, hx, List.filter_append]
  simp [hp]

theorem last_survives (p : Params) (s : Seg) (offs : List Int) (mv iv : Ver) (its : List Item)
    (hm : s.mem = some its) (hit : ItemsFor s.ver s.recs its) (m : Msg)
    (hl : s.recs.getLast? = some m) (ht : tailDeleted s (rewrite p s offs mv iv) = false) :
    (rewrite p s offs mv iv).survive.getLast? = some m := by
  have hlo : headLastOff s = m.off := by
    have h1 := congrArg List.getLast? hit.map_off
    rw [List.getLast?_map, List.getLast?_map, hl] at h1
    unfold headLastOff
    rw [hm, Option.bind_some]
    cases hg : its.getLast? with
    | none => rw [hg] at h1; cases h1
    | some it => rw [hg] at h1; exact Option.some.inj h1
  refine filter_getLast_of_last s.recs _ m hl ?_
  cases hc : offs.contains m.off with
  | false => rfl
  | true =>
    have hd : (rewrite p s offs mv iv).deleted.getLast? = some m :=
      filter_getLast_of_last s.recs _ m hl hc
    rw [tailDeleted, hd, hlo] at ht
    have ht : (m.off == m.off) = false := ht
    rw [beq_self_eq_true] at ht
    cases ht

theorem swapReader_spec (l : Log) (hinv : Inv l) (hro : l.opts.readonly = false) (i : Nat)
    (hi : i + 1 < l.segs.length) (offs : List Int) (mv iv : Ver) :
    let rw := rewrite l.opts.params (l.segs[i]'(Nat.lt_of_succ_lt hi)) offs mv iv
    Inv (swapReader l i rw) ∧
    abs (swapReader l i rw) = ⟨Spec.removeAll (abs l).live rw.deleted, (abs l).next⟩ := by
  intro rw
  rw [swapReader_eq]
  exact swap_spec l hinv hro _ _ _ (segs_split l i (Nat.lt_of_succ_lt hi)) (fun m => offs.contains m.off)
    rw.survive (rewrittenSeg l.opts.params rw) false _ rfl rfl rfl (rewrittenSeg_idxOK _ _) (fun h => nomatch h)
    (fun h => absurd hi (Nat.not_lt.mpr (List.drop_eq_nil_iff.mp h)))

theorem swapHead_spec (l : Log) (hinv : Inv l) (hro : l.opts.readonly = false) (i : Nat)
    (hi : i + 1 = l.segs.length) (offs : List Int) (mv iv : Ver) :
    let s := l.segs[i]'(hi ▸ Nat.lt_succ_self i)
    let rw := rewrite l.opts.params s offs mv iv
    Inv (swapHead l i s rw) ∧
    abs (swapHead l i s rw) = ⟨Spec.removeAll (abs l).live rw.deleted, (abs l).next⟩ := by
  intro s rw
  have hi0 : i < l.segs.length := Nat.lt_of_lt_of_eq (Nat.lt_succ_self i) hi
  rw [swapHead_eq]
  cases hf : (rw.survive.isEmpty || tailDeleted s rw) with
  | true =>
    exact swap_spec l hinv hro _ _ _ (segs_split l i hi0) (fun m => offs.contains m.off) rw.survive
      (rewrittenSeg l.opts.params rw) true _ rfl rfl rfl (rewrittenSeg_idxOK _ _)
      (fun _ => List.drop_eq_nil_of_le (Nat.le_of_eq hi.symm)) (fun _ h => nomatch h)
  | false =>
    -- the last record survives: the writer reads back the next offset it had
    obtain ⟨h1, h2⟩ := Bool.or_eq_false_iff.mp hf
    obtain ⟨hb, hrc, hidxn, hheadn, hnoff⟩ := openWriter_spec l.opts
      (rewrittenSeg l.opts.params rw) l.wNextTime (rewrittenSeg_idxOK _ _)
    have hl : l.segs.getLast? = some s := by
      rw [List.getLast?_eq_getElem?, ← hi, Nat.add_sub_cancel, List.getElem?_eq_getElem hi0]
    have hrne : s.recs ≠ [] := fun h0 =>
      List.isEmpty_eq_false_iff.mp h1 (by show s.recs.filter _ = []; rw [h0]; rfl)
    obtain ⟨m, hm⟩ : ∃ m, s.recs.getLast? = some m := ⟨_, List.getLast?_eq_some_getLast hrne⟩
    obtain ⟨its0, hm0, _⟩ := (hinv.head hro s hl).loaded
    have hsm := last_survives l.opts.params s offs mv iv its0 hm0
      ((hinv.idx s (List.getElem_mem hi0)).mem its0 hm0) m hm h2
    have hoff : (openWriter l.opts (rewrittenSeg l.opts.params rw) l.wNextTime).2.1 = l.wNextOff := by
      rw [hnoff, hinv.wNextOff_eq hro hl]
      show recsNext _ rw.survive = _
      unfold recsNext; rw [hsm, hm]
    unfold swapped
    simp only [Bool.not_false, if_true, hoff]
    exact swap_spec l hinv hro _ _ _ (segs_split l i hi0) (fun m => offs.contains m.off) rw.survive _
      false _ rfl hb hrc hidxn (fun h => nomatch h) (fun _ _ => ⟨hheadn, m, hsm, hm⟩)

/-- A V2 record is 8 bytes longer than the same record in V1. -/
theorem sumSizes_v2 (p : Params) (ms : List Msg) :
    Spec.sumSizes .v2 p ms = Spec.sumSizes .v1 p ms + 8 * ms.length := by
  unfold Spec.sumSizes
  induction ms with
  | nil => rfl
  | cons m rest ih =>
    simp only [List.map_cons, List.sum_cons, List.length_cons, recSize] at ih ⊢
    omega

theorem sumSizes_bounds (p : Params) (v : Ver) (ms : List Msg) :
    Spec.sumSizes .v1 p ms ≤ (ms.map (fun m => recSize v m + p.size)).sum ∧
    (ms.map (fun m => recSize v m + p.size)).sum ≤ Spec.sumSizes .v2 p ms ∧
    ((ms.map (fun m => recSize v m + p.size)).sum - Spec.sumSizes .v1 p ms) % 8 = 0 := by
  have h2 := sumSizes_v2 p ms
  have hle : Spec.sumSizes .v1 p ms ≤ Spec.sumSizes .v2 p ms := by omega
  unfold Spec.sumSizes at h2 hle ⊢
  cases v with
  | v1 => exact ⟨Int.le_refl _, hle, by rw [Int.sub_self]; rfl⟩
  | v2 => exact ⟨hle, Int.le_refl _, by rw [h2, Int.add_comm, Int.add_sub_cancel]; exact Int.mul_emod_right 8 _⟩

theorem rewrite_delSize (p : Params) (s : Seg) (offs : List Int) (mv iv : Ver) :
    (rewrite p s offs mv iv).delSize =
      ((rewrite p s offs mv iv).deleted.map (fun m => recSize s.ver m + p.size)).sum := rfl

theorem exists_neg_iff_minOff (offs : List Int) (hne : offs ≠ []) :
    (∃ o ∈ offs, o < 0) ↔ minOff offs < 0 := by
  constructor
  · rintro ⟨o, ho, hlt⟩
    exact Int.lt_of_le_of_lt (minOff_le offs o ho) hlt
  · intro h
    exact ⟨minOff offs, minOff_mem offs hne, h⟩

theorem removeAll_nil (live : List Msg) : Spec.removeAll live [] = live := by
  unfold Spec.removeAll
  rw [List.filter_eq_self]
  intro a _; rfl

theorem Spec.DeleteOK.of_err {ro : Bool} {p : Params} {s s' : Spec} {offs : List Int} {e : Err}
    (h : DeleteOK ro p s offs (.err e) s') : s' = s := by
  unfold DeleteOK at h
  by_cases hro : ro = true
  · rw [if_pos hro] at h; exact h.2
  · rw [if_neg hro] at h
    by_cases ho : offs = []
    · rw [if_pos ho] at h; exact h.2
    · rw [if_neg ho] at h
      by_cases hn : ∃ o ∈ offs, o < 0
      · rw [if_pos hn] at h; exact h.2
      · rw [if_neg hn] at h; exact h.1

theorem Spec.DeleteOK.of_ok {ro : Bool} {p : Params} {s s' : Spec} {offs : List Int} {del : List Msg}
    {sz : Int} (h : DeleteOK ro p s offs (.ok (del, sz)) s') :
    del.Sublist s.live ∧ (∀ d ∈ del, d.off ∈ offs) ∧ s'.live = removeAll s.live del ∧
    s'.next = s.next ∧ sumSizes .v1 p del ≤ sz ∧ sz ≤ sumSizes .v2 p del := by
  unfold DeleteOK at h
  by_cases hro : ro = true
  · rw [if_pos hro] at h; cases h.1
  · rw [if_neg hro] at h
    by_cases ho : offs = []
    · rw [if_pos ho] at h
      obtain ⟨h1, rfl⟩ := h
      obtain ⟨rfl, rfl⟩ := Prod.mk.inj (Out.ok.inj h1)
      exact ⟨List.nil_sublist _, fun d hd => absurd hd List.not_mem_nil, (removeAll_nil _).symm, rfl,
        Int.le_refl _, Int.le_refl _⟩
    · rw [if_neg ho] at h
      by_cases hn : ∃ o ∈ offs, o < 0
      · rw [if_pos hn] at h; cases h.1
      · rw [if_neg hn] at h
        exact ⟨h.1, h.2.1, h.2.2.1, h.2.2.2.1, h.2.2.2.2.1, h.2.2.2.2.2.1⟩

theorem deleteTarget_spec (l : Log) (hinv : Inv l) (offs : List Int) (hne : offs ≠ []) :
    ((∃ o ∈ offs, o < 0) ∧ deleteTarget l offs = .error .invalidOffset) ∨
    ((¬ ∃ o ∈ offs, o < 0) ∧
      (deleteTarget l offs = .error .notFound ∧ (∀ m ∈ (abs l).live, minOff offs < m.off) ∨
       ∃ i, deleteTarget l offs = .ok i ∧ IsSegFor ((shape l.segs).map (·.1)) (minOff offs) i)) := by
  have hsh := hinv.shape
  unfold deleteTarget
  dsimp only
  by_cases hneg : minOff offs < 0
  · exact Or.inl ⟨(exists_neg_iff_minOff offs hne).mpr hneg, by rw [if_pos hneg]⟩
  · refine Or.inr ⟨fun h => hneg ((exists_neg_iff_minOff offs hne).mp h), ?_⟩
    rw [if_neg hneg]
    rcases SegSearch.get_spec (bases l) (minOff offs) (by rw [bases_eq_shape]; exact hsh.sortedB)
        (bases_ne hinv) (fun h => hneg (h ▸ (by decide : offsetOldest < 0)))
        (fun h => hneg (h ▸ (by decide : offsetNewest < 0))) with ⟨h0, hlt, hres⟩ | ⟨i, hres, hseg⟩
    · -- below the first segment, whose base is then positive: nothing there
      left
      have hpos : 0 < (shape l.segs).length := List.length_pos_iff.mpr hsh.ne
      rw [hres, if_neg (fun hz : (bases l)[0] = 0 => hneg (hz ▸ hlt))]
      simp only [bases_eq_shape, List.getElem_map] at hlt
      refine ⟨rfl, fun m hm => ?_⟩
      obtain ⟨j, hj, hmj⟩ := mem_flat (sh := shape l.segs) hm
      have hb : ((shape l.segs)[0]).1 ≤ ((shape l.segs)[j]).1 := by
        rcases Nat.eq_zero_or_pos j with rfl | h
        · exact Int.le_refl _
        · exact Int.le_of_lt (hsh.base_lt h hj)
      exact Int.lt_of_lt_of_le hlt (Int.le_trans hb (hsh.lower _ (List.getElem_mem hj) m hmj))
    · right
      rw [bases_eq_shape] at hseg
      exact ⟨i, by rw [hres]; simp only [Int.toNat_natCast], hseg⟩

theorem delete_at (l : Log) (hinv : Inv l) (hro : l.opts.readonly = false) (offs : List Int)
    (hne : offs ≠ []) (i : Nat) (hi : i < l.segs.length) (ht : deleteTarget l offs = .ok i) :
    ∃ mv, Inv (l.delete offs).1 ∧
      (l.delete offs).2 = .ok ((rewrite l.opts.params l.segs[i] offs mv mv).deleted,
        (rewrite l.opts.params l.segs[i] offs mv mv).delSize) ∧
      abs (l.delete offs).1 =
        ⟨Spec.removeAll (abs l).live (rewrite l.opts.params l.segs[i] offs mv mv).deleted,
          (abs l).next⟩ := by
  rcases delete_out l offs with ⟨hr, _⟩ | ⟨_, ⟨he, _⟩ | ⟨_, hc⟩⟩
  · rw [hro] at hr; cases hr
  · exact absurd he hne
  rw [ht] at hc
  obtain ⟨_, ⟨⟩, _⟩ | ⟨_, ⟨⟩, hc⟩ := hc
  rw [List.getElem?_eq_getElem hi] at hc
  obtain ⟨⟨⟩, _⟩ | ⟨_, mv, ⟨⟩, _, h⟩ := hc
  refine ⟨mv, ?_⟩
  rw [h]
  by_cases hde : (rewrite l.opts.params l.segs[i] offs mv mv).deleted.isEmpty = true
  · have h0 : (l.segs[i]).recs.filter (fun m => offs.contains m.off) = [] := List.isEmpty_iff.mp hde
    rw [if_pos hde]
    refine ⟨hinv, ?_, ?_⟩
    · simp only [rewrite, h0]
      rfl
    · rw [List.isEmpty_iff.mp hde, removeAll_nil]
  rw [if_neg hde]
  by_cases hlast : (i + 1 == l.segs.length) = true
  · rw [if_pos hlast]
    dsimp only
    obtain ⟨h1, h2⟩ := swapHead_spec l hinv hro i (eq_of_beq hlast) offs mv mv
    exact ⟨h1, rfl, h2⟩
  · rw [if_neg hlast]
    dsimp only
    have hi1 : i + 1 < l.segs.length := Nat.lt_of_le_of_ne (Nat.succ_le_of_lt hi) fun h => hlast (beq_iff_eq.mpr h)
    obtain ⟨h1, h2⟩ := swapReader_spec l hinv hro i hi1 offs mv mv
    exact ⟨h1, rfl, h2⟩

/-- **Delete step**: the invariant is kept; the result and the new L0 state are what
`DeleteOK` says: only reported messages are removed, they were live and requested and carry
their full content, the size lies between the sums of their V1 and V2 storage sizes;
relative offsets are rejected, the empty set is a no-op, a read-only handle refuses. -/
theorem delete_step (l : Log) (hinv : Inv l) (offs : List Int) :
    Inv (l.delete offs).1 ∧
    Spec.DeleteOK l.opts.readonly l.opts.params (abs l) offs (l.delete offs).2 (abs (l.delete offs).1) := by
  unfold Spec.DeleteOK
  rcases delete_out l offs with ⟨hro, h⟩ | ⟨hro, ⟨he, h⟩ | ⟨he, hc⟩⟩
  · rw [h, hro, if_pos rfl]; exact ⟨hinv, rfl, rfl⟩
  · rw [h, hro, if_neg Bool.false_ne_true, if_pos he]; exact ⟨hinv, rfl, rfl⟩
  rw [hro, if_neg Bool.false_ne_true, if_neg he]
  rcases deleteTarget_spec l hinv offs he with ⟨hneg, ht⟩ | ⟨hnn, ⟨ht, hbelow⟩ | ⟨i, ht, hseg⟩⟩
  · rw [ht] at hc
    obtain ⟨_, ⟨⟩, h⟩ | ⟨_, ⟨⟩, _⟩ := hc
    rw [if_pos hneg, h]; exact ⟨hinv, rfl, rfl⟩
  · rw [ht] at hc
    obtain ⟨_, ⟨⟩, h⟩ | ⟨_, ⟨⟩, _⟩ := hc
    rw [if_neg hnn, h]; exact ⟨hinv, rfl, rfl, minOff offs, minOff_mem offs he, hbelow⟩
  · have hi : i < l.segs.length := by simpa [shape_length] using hseg.1
    obtain ⟨mv, hinv', hres, habs'⟩ := delete_at l hinv hro offs he i hi ht
    have h2 := seg_sublist_flat (shape l.segs) i (by rw [shape_length]; exact hi)
    rw [shape_getElem l.segs i hi] at h2
    rw [if_neg hnn, hres, habs', rewrite_delSize]
    exact ⟨hinv', List.filter_sublist.trans h2, fun d hd => List.contains_iff_mem.mp (List.mem_filter.mp hd).2,
      rfl, rfl, sumSizes_bounds l.opts.params (l.segs[i]).ver _⟩

end Klev
