/-
C08: the lock discipline of `Klev/Conc.lean` is linearizable.

`Inv v0 c` is the reachability invariant of the interleaving semantics: the commit log is a
legal sequential execution from `v0` whose replay is the visible state; each mutex is held by
exactly the thread whose phase says so; a publisher between its file write and its index
append has stamped from the *current* next offset (only the `writerMu` holder moves it); a
deleter between its rewrite and its swap has chosen messages that are *still* visible (only
the `deleteMu` holder removes, a publish only appends); a thread has a log entry exactly when
its phase says it committed, exactly one, carrying its call and its result.

The statements about runs are projections of `inv_reachable`; real-time order is a case of
`Inv.commit_order`.
-/
import Klev.Conc
namespace Klev.Conc

abbrev Entry := Nat × Call × List Msg × Res

theorem replay_append (v : Vis) (l1 l2 : List Entry) :
    replay v (l1 ++ l2) = replay (replay v l1) l2 := by
  induction l1 generalizing v with
  | nil => rfl
  | cons e l ih => obtain ⟨i, c, ch, r⟩ := e; simp [replay, ih]

theorem logOK_append (v : Vis) (l1 l2 : List Entry) :
    LogOK v (l1 ++ l2) ↔ LogOK v l1 ∧ LogOK (replay v l1) l2 := by
  induction l1 generalizing v with
  | nil => simp [LogOK, replay]
  | cons e l ih => obtain ⟨i, c, ch, r⟩ := e; simp [LogOK, replay, ih, and_assoc]

theorem replay_snoc (v : Vis) (l : List Entry) (i c ch r) :
    replay v (l ++ [(i, c, ch, r)]) = (seqStep (replay v l) c ch).1 := by
  rw [replay_append]; rfl

theorem seqStep_lost {v : Vis} {c : Call} {ch : List Msg} {m : Msg} (hm : m ∈ v.live)
    (h : m ∉ (seqStep v c ch).1.live) : (∃ offs, c = .delete offs) ∧ m ∈ ch := by
  cases c with
  | publish b => exact absurd (List.mem_append_left _ hm) h
  | read q => exact absurd hm h
  | delete offs =>
    refine ⟨⟨offs, rfl⟩, Decidable.byContradiction fun hc => h ?_⟩
    exact List.mem_filter.mpr ⟨hm, by simpa using hc⟩

theorem seqStep_gained {v : Vis} {c : Call} {ch : List Msg} {m : Msg}
    (h : m ∈ (seqStep v c ch).1.live) : m ∈ v.live ∨ ∃ b, c = .publish b ∧ m ∈ stamp v.next b := by
  cases c with
  | publish b => exact (List.mem_append.mp h).imp_right fun h => ⟨b, rfl, h⟩
  | read q => exact Or.inl h
  | delete offs => exact Or.inl (List.mem_filter.mp h).1

@[simp] def holdsW : Phase → Bool
  | .pubLocked | .pubWritten _ | .pubCommitted _ => true
  | _ => false

@[simp] def holdsD : Phase → Bool
  | .delLocked | .delRewritten _ | .delCommitted _ => true
  | _ => false

@[simp] def phaseRes : Phase → Option Res
  | .pubCommitted n => some (.next n)
  | .delCommitted ms => some (.deleted ms)
  | .done r => some r
  | _ => none

@[simp] def Compat : Call → Phase → Bool
  | _, .start => true
  | _, .done _ => true
  | .publish _, .pubLocked | .publish _, .pubWritten _ | .publish _, .pubCommitted _ => true
  | .delete _, .delLocked | .delete _, .delRewritten _ | .delete _, .delCommitted _ => true
  | _, _ => false

structure Inv (v0 : Vis) (c : Cfg) : Prop where
  logOK : LogOK v0 c.log
  replayEq : replay v0 c.log = c.vis
  wmu : ∀ (i : Nat) (t : Th), c.ths[i]? = some t → (holdsW t.phase = true ↔ c.writerMu = some i)
  dmu : ∀ (i : Nat) (t : Th), c.ths[i]? = some t → (holdsD t.phase = true ↔ c.deleteMu = some i)
  wvalid : ∀ i, c.writerMu = some i → i < c.ths.length
  dvalid : ∀ i, c.deleteMu = some i → i < c.ths.length
  pubW : ∀ (i : Nat) (t : Th) b ms, c.ths[i]? = some t → t.call = .publish b → t.phase = .pubWritten ms →
    ms = stamp c.vis.next b
  delR : ∀ (i : Nat) (t : Th) offs ms, c.ths[i]? = some t → t.call = .delete offs → t.phase = .delRewritten ms →
    ∀ m ∈ ms, m ∈ c.vis.live ∧ m.off ∈ offs
  noEntry : ∀ (i : Nat) (t : Th), c.ths[i]? = some t → phaseRes t.phase = none → ∀ e ∈ c.log, e.1 ≠ i
  entry : ∀ (i : Nat) (t : Th) r, c.ths[i]? = some t → phaseRes t.phase = some r →
    (∃ ch, (i, t.call, ch, r) ∈ c.log) ∧ (c.log.filter (fun e => e.1 == i)).length = 1
  compat : ∀ (i : Nat) (t : Th), c.ths[i]? = some t → Compat t.call t.phase = true

theorem getElem?_set_cases {α} {l : List α} {i j : Nat} {a b : α} (h : (l.set i a)[j]? = some b) :
    (j = i ∧ b = a) ∨ (j ≠ i ∧ l[j]? = some b) := by
  by_cases hji : j = i
  · subst hji
    have hlt : j < l.length := by simpa using (List.getElem?_eq_some_iff.mp h).1
    rw [List.getElem?_set_self hlt] at h
    exact .inl ⟨rfl, (Option.some.inj h).symm⟩
  · rw [List.getElem?_set_ne (Ne.symm hji)] at h
    exact .inr ⟨hji, h⟩

/-- The mutex `mu` (`writerMu` with `holdsW`, `deleteMu` with `holdsD`) is held by exactly the thread
whose phase says so, and that thread exists. -/
structure Held (holds : Phase → Bool) (mu : Option Nat) (ths : List Th) : Prop where
  holder : ∀ (i : Nat) (t : Th), ths[i]? = some t → (holds t.phase = true ↔ mu = some i)
  valid : ∀ i, mu = some i → i < ths.length

theorem Inv.heldW {v0 : Vis} {c : Cfg} (h : Inv v0 c) : Held holdsW c.writerMu c.ths := ⟨h.wmu, h.wvalid⟩
theorem Inv.heldD {v0 : Vis} {c : Cfg} (h : Inv v0 c) : Held holdsD c.deleteMu c.ths := ⟨h.dmu, h.dvalid⟩

namespace Held
variable {holds : Phase → Bool} {mu mu' : Option Nat} {ths : List Th} {i : Nat} {t t' : Th}

theorem exclusive (h : Held holds mu ths) {j : Nat} {tj : Th} (hi : ths[i]? = some t)
    (hj : ths[j]? = some tj) (hhi : holds t.phase = true) (hhj : holds tj.phase = true) : i = j :=
  Option.some.inj (((h.holder i t hi).mp hhi).symm.trans ((h.holder j tj hj).mp hhj))

theorem set (h : Held holds mu ths) (hi : ths[i]? = some t)
    (hself : holds t'.phase = true ↔ mu' = some i) (hoth : ∀ j, j ≠ i → (mu' = some j ↔ mu = some j)) :
    Held holds mu' (ths.set i t') := by
  refine ⟨fun j tj hj => ?_, fun j hj => ?_⟩
  · rcases getElem?_set_cases hj with ⟨rfl, rfl⟩ | ⟨hne, hj'⟩
    · exact hself
    · exact (h.holder j tj hj').trans (hoth j hne).symm
  · rw [List.length_set]
    by_cases hji : j = i
    · exact hji ▸ (List.getElem?_eq_some_iff.mp hi).1
    · exact h.valid j ((hoth j hji).mp hj)

theorem keep (h : Held holds mu ths) (hi : ths[i]? = some t) (hp : holds t'.phase = holds t.phase) :
    Held holds mu (ths.set i t') :=
  h.set hi (hp ▸ h.holder i t hi) fun _ _ => Iff.rfl

theorem acquire (h : Held holds mu ths) (hi : ths[i]? = some t) (hfree : mu = none)
    (hp : holds t'.phase = true) : Held holds (some i) (ths.set i t') :=
  h.set hi (by simp [hp]) fun j hne => by simp [hfree, Ne.symm hne]

theorem release (h : Held holds mu ths) (hi : ths[i]? = some t) (hheld : holds t.phase = true)
    (hp : holds t'.phase = false) : Held holds none (ths.set i t') :=
  h.set hi (by simp [hp]) fun j hne => by simp [(h.holder i t hi).mp hheld, Ne.symm hne]

end Held

/-- What `Inv` says of thread `i` in state `t`: it needs the visible state and the log only. -/
structure ThOK (vis : Vis) (log : List Entry) (i : Nat) (t : Th) : Prop where
  pubW : ∀ b ms, t.call = .publish b → t.phase = .pubWritten ms → ms = stamp vis.next b
  delR : ∀ offs ms, t.call = .delete offs → t.phase = .delRewritten ms →
    ∀ m ∈ ms, m ∈ vis.live ∧ m.off ∈ offs
  noEntry : phaseRes t.phase = none → ∀ e ∈ log, e.1 ≠ i
  entry : ∀ r, phaseRes t.phase = some r →
    (∃ ch, (i, t.call, ch, r) ∈ log) ∧ (log.filter (fun e => e.1 == i)).length = 1
  compat : Compat t.call t.phase = true

theorem Inv.th {v0 : Vis} {c : Cfg} {i : Nat} {t : Th} (h : Inv v0 c) (hi : c.ths[i]? = some t) :
    ThOK c.vis c.log i t :=
  ⟨fun b ms => h.pubW i t b ms hi, fun offs ms => h.delR i t offs ms hi, h.noEntry i t hi,
    fun r => h.entry i t r hi, h.compat i t hi⟩

theorem Inv.of_threads {v0 : Vis} {c : Cfg} (hlog : LogOK v0 c.log) (hrep : replay v0 c.log = c.vis)
    (hW : Held holdsW c.writerMu c.ths) (hD : Held holdsD c.deleteMu c.ths)
    (hth : ∀ (i : Nat) (t : Th), c.ths[i]? = some t → ThOK c.vis c.log i t) : Inv v0 c :=
  { logOK := hlog, replayEq := hrep, wmu := hW.holder, wvalid := hW.valid, dmu := hD.holder, dvalid := hD.valid
    pubW := fun i t b ms hi => (hth i t hi).pubW b ms
    delR := fun i t offs ms hi => (hth i t hi).delR offs ms
    noEntry := fun i t hi => (hth i t hi).noEntry
    entry := fun i t r hi => (hth i t hi).entry r
    compat := fun i t hi => (hth i t hi).compat }

/-! ### the two shapes of a step

A step that does anything either commits (the visible state moves by one `seqStep`, the log gains
the thread's entry, the mutexes stay) or moves the thread alone (the visible state and the log stay). -/

theorem Inv.commit {v0 : Vis} {c : Cfg} {i : Nat} {t t' : Th} {vis' : Vis} {ch : List Msg} {r : Res}
    (h : Inv v0 c) (hi : c.ths[i]? = some t)
    (hcall : t'.call = t.call) (hnone : phaseRes t.phase = none) (hsome : phaseRes t'.phase = some r)
    (hcompat : Compat t'.call t'.phase = true)
    (hW : holdsW t'.phase = holdsW t.phase) (hD : holdsD t'.phase = holdsD t.phase)
    (hlegal : LegalChoice c.vis t.call ch) (hseq : seqStep c.vis t.call ch = (vis', r))
    (hnext : vis'.next = c.vis.next ∨ holdsW t.phase = true)
    (hlive : (∀ m ∈ c.vis.live, m ∈ vis'.live) ∨ holdsD t.phase = true) :
    Inv v0 { c with vis := vis', ths := c.ths.set i t',
                    log := c.log ++ [(i, t.call, ch, r)] } := by
  refine .of_threads ?_ (by rw [replay_snoc, h.replayEq, hseq]) (h.heldW.keep hi hW)
    (h.heldD.keep hi hD) fun j tj hj => ?_
  · rw [logOK_append, h.replayEq]
    exact ⟨h.logOK, hlegal, by rw [hseq], trivial⟩
  show ThOK vis' (c.log ++ [(i, t.call, ch, r)]) j tj
  rcases getElem?_set_cases hj with ⟨rfl, rfl⟩ | ⟨hne, hj'⟩
  · -- the thread itself: committed, and the new entry is its first
    have hnil : c.log.filter (fun e => e.1 == j) = [] :=
      List.filter_eq_nil_iff.mpr fun e he => by simpa using h.noEntry j t hi hnone e he
    refine ⟨fun _ _ _ hp => ?_, fun _ _ _ hp => ?_, fun hr => ?_, fun r' hr => ?_, hcompat⟩
    · rw [hp] at hsome; cases hsome
    · rw [hp] at hsome; cases hsome
    · rw [hsome] at hr; cases hr
    · cases hsome.symm.trans hr
      exact ⟨⟨ch, by simp [hcall]⟩, by simp [List.filter_append, hnil]⟩
  · have hj := h.th hj'
    refine ⟨fun b ms hcj hpj => ?_, fun offs ms hcj hpj => ?_, fun hr e he => ?_, fun r' hr => ?_,
      hj.compat⟩
    · -- `next` has moved only if `i` holds `writerMu`, and then `j` does not
      rcases hnext with hn | hw
      · rw [hn]; exact hj.pubW b ms hcj hpj
      · exact absurd (h.heldW.exclusive hj' hi (by rw [hpj]; rfl) hw) hne
    · -- a message has gone only if `i` holds `deleteMu`, and then `j` does not
      rcases hlive with hl | hd
      · exact fun m hm => (hj.delR offs ms hcj hpj m hm).imp_left (hl m)
      · exact absurd (h.heldD.exclusive hj' hi (by rw [hpj]; rfl) hd) hne
    · rcases List.mem_append.mp he with he | he
      · exact hj.noEntry hr e he
      · rw [List.mem_singleton.mp he]; exact Ne.symm hne
    · obtain ⟨⟨ch', hm⟩, hl⟩ := hj.entry r' hr
      exact ⟨⟨ch', List.mem_append_left _ hm⟩, by simpa [List.filter_append, Ne.symm hne] using hl⟩

theorem Inv.move {v0 : Vis} {c : Cfg} {i : Nat} {t : Th} {p' : Phase} {pk : List (List Msg)}
    {w' d' : Option Nat} (h : Inv v0 c) (hi : c.ths[i]? = some t)
    (hres : phaseRes p' = phaseRes t.phase) (hcompat : Compat t.call p' = true)
    (hW : Held holdsW w' (c.ths.set i { t with phase := p', picks := pk }))
    (hD : Held holdsD d' (c.ths.set i { t with phase := p', picks := pk }))
    (hpw : ∀ ms, p' = .pubWritten ms → ∀ b, t.call = .publish b → ms = stamp c.vis.next b)
    (hdr : ∀ ms, p' = .delRewritten ms → ∀ offs, t.call = .delete offs →
      ∀ m ∈ ms, m ∈ c.vis.live ∧ m.off ∈ offs) :
    Inv v0 { c with writerMu := w', deleteMu := d',
                    ths := c.ths.set i { t with phase := p', picks := pk } } := by
  refine .of_threads h.logOK h.replayEq hW hD fun j tj hj => ?_
  rcases getElem?_set_cases hj with ⟨rfl, rfl⟩ | ⟨hne, hj'⟩
  · exact ⟨fun b ms hc hp => hpw ms hp b hc, fun offs ms hc hp => hdr ms hp offs hc,
      fun hr => (h.th hi).noEntry (hres ▸ hr), fun r hr => (h.th hi).entry r (hres ▸ hr), hcompat⟩
  · exact h.th hj'

theorem usable_spec {v : Vis} {offs : List Int} {p : List Msg} (h : usable v offs p = true) :
    ∀ m ∈ p, m ∈ v.live ∧ m.off ∈ offs := by
  intro m hm
  simp only [usable, List.all_eq_true, Bool.and_eq_true, List.contains_iff_mem] at h
  exact h m hm

theorem Inv.step {v0 : Vis} {c : Cfg} (h : Inv v0 c) (i : Nat) : Inv v0 (step c i) := by
  unfold Klev.Conc.step
  split
  · exact h
  next t hi =>
    obtain ⟨call, phase, picks⟩ := t
    have hW := h.heldW
    have hD := h.heldD
    dsimp only
    -- the cases of the `match` in `step`, in order; with `t` taken apart the side conditions are `rfl`
    split
    next q =>
      exact h.commit (ch := []) hi rfl rfl rfl rfl rfl rfl rfl rfl (.inl rfl) (.inl fun _ hm => hm)
    · split
      next hw => exact h.move hi rfl rfl (hW.acquire hi hw rfl) (hD.keep hi rfl) nofun nofun
      · exact h
    next b =>
      exact h.move hi rfl rfl (hW.keep hi rfl) (hD.keep hi rfl) (by rintro _ ⟨⟩ _ ⟨⟩; rfl) nofun
    next b ms =>
      -- the index append commits what was stamped: `next` has not moved since
      cases h.pubW i _ b ms hi rfl rfl
      exact h.commit (ch := []) hi rfl rfl rfl rfl rfl rfl rfl rfl (.inr rfl)
        (.inl fun _ hm => List.mem_append_left _ hm)
    · exact h.move hi rfl rfl (hW.release hi rfl rfl) (hD.keep hi rfl) nofun nofun
    · split
      next hd => exact h.move hi rfl rfl (hW.keep hi rfl) (hD.acquire hi hd rfl) nofun nofun
      · exact h
    next offs =>
      -- what is chosen is live and requested: a pick is taken only if usable
      split
      · exact h.move hi rfl rfl (hW.keep hi rfl) (hD.keep hi rfl) nofun
          (by rintro _ ⟨⟩ _ _ m hm; cases hm)
      next p rest _ =>
        refine h.move hi rfl rfl (hW.keep hi rfl) (hD.keep hi rfl) nofun ?_
        rintro _ ⟨⟩ _ ⟨⟩
        split
        next hu => exact usable_spec hu
        · exact List.forall_mem_nil _
    next offs ms =>
      -- the swap, once `writerMu` is free, commits what was chosen: it is still live
      split
      · exact h
      · exact h.commit (t' := ⟨_, .delCommitted ms, _⟩) (ch := ms) hi rfl rfl rfl rfl rfl rfl
          (h.delR i _ offs ms hi rfl rfl) rfl (.inl rfl) (.inr rfl)
    · exact h.move hi rfl rfl (hW.keep hi rfl) (hD.release hi rfl rfl) nofun nofun
    · exact h

theorem Inv.init {v0 : Vis} {ths : List Th} (h : Fresh ths) : Inv v0 (init v0 ths) := by
  have held : ∀ holds, holds .start = false → Held holds none ths := fun holds hs =>
    ⟨fun i t hi => by rw [h t (List.mem_of_getElem? hi), hs]; simp, nofun⟩
  refine .of_threads trivial rfl (held _ rfl) (held _ rfl) fun i t hi => ?_
  obtain ⟨call, phase, picks⟩ := t
  cases (h _ (List.mem_of_getElem? hi) : phase = .start)
  exact ⟨nofun, nofun, fun _ => List.forall_mem_nil _, nofun, rfl⟩

theorem Inv.run {v0 : Vis} {c : Cfg} (h : Inv v0 c) (sched : List Nat) : Inv v0 (run c sched) := by
  induction sched generalizing c with
  | nil => exact h
  | cons i rest ih => exact ih (h.step i)

theorem inv_reachable (v0 : Vis) (ths : List Th) (h : Fresh ths) (sched : List Nat) :
    Inv v0 (run (init v0 ths) sched) :=
  (Inv.init h).run sched

theorem linearizable (v0 : Vis) (ths : List Th) (h : Fresh ths) (sched : List Nat) :
    LogOK v0 (run (init v0 ths) sched).log ∧
      replay v0 (run (init v0 ths) sched).log = (run (init v0 ths) sched).vis :=
  ⟨(inv_reachable v0 ths h sched).logOK, (inv_reachable v0 ths h sched).replayEq⟩

theorem done_result_in_log (v0 : Vis) (ths : List Th) (h : Fresh ths) (sched : List Nat)
    (i : Nat) (t : Th) (r : Res)
    (hi : (run (init v0 ths) sched).ths[i]? = some t) (hd : t.phase = .done r) :
    ∃ ch, (i, t.call, ch, r) ∈ (run (init v0 ths) sched).log ∧
      ((run (init v0 ths) sched).log.filter (fun e => e.1 == i)).length = 1 := by
  obtain ⟨⟨ch, hm⟩, hl⟩ := (inv_reachable v0 ths h sched).entry i t r hi (by rw [hd]; rfl)
  exact ⟨ch, hm, hl⟩

theorem step_frame (c : Cfg) (i : Nat) :
    (step c i).ths.length = c.ths.length ∧ c.log <+: (step c i).log := by
  unfold Klev.Conc.step
  split
  · simp
  · split <;> (try split) <;> simp

theorem run_frame (c : Cfg) (sched : List Nat) :
    (run c sched).ths.length = c.ths.length ∧ c.log <+: (run c sched).log := by
  induction sched generalizing c with
  | nil => exact ⟨rfl, List.prefix_rfl⟩
  | cons i rest ih =>
    exact ⟨(ih _).1.trans (step_frame c i).1, (step_frame c i).2.trans (ih _).2⟩

theorem run_append (c : Cfg) (s1 s2 : List Nat) : run c (s1 ++ s2) = run (run c s1) s2 := by
  induction s1 generalizing c with
  | nil => rfl
  | cons i rest ih => exact ih (step c i)

theorem Inv.entry_unique {v0 : Vis} {c : Cfg} (h : Inv v0 c) {i : Nat} (hlt : i < c.ths.length)
    {pre post : List Entry} {ei : Entry} (hl : c.log = pre ++ ei :: post) (hei : ei.1 = i) :
    (∀ e ∈ pre, e.1 ≠ i) ∧ (∀ e ∈ post, e.1 ≠ i) := by
  obtain ⟨t, ht⟩ : ∃ t, c.ths[i]? = some t := ⟨c.ths[i], List.getElem?_eq_getElem hlt⟩
  cases hp : phaseRes t.phase with
  | none =>
    exact absurd hei (h.noEntry i t ht hp ei (by rw [hl]; simp))
  | some r =>
    have hlen := (h.entry i t r ht hp).2
    subst hei
    rw [hl, List.filter_append, List.filter_cons] at hlen
    simp only [beq_iff_eq, if_true, List.length_append, List.length_cons] at hlen
    rw [← Nat.add_assoc] at hlen
    obtain ⟨h1, h2⟩ := Nat.add_eq_zero_iff.mp (Nat.succ.inj hlen)
    rw [List.length_eq_zero_iff, List.filter_eq_nil_iff] at h1 h2
    exact ⟨fun e he => by simpa using h1 e he, fun e he => by simpa using h2 e he⟩

/-- Log order extends "has committed / has not yet" at any moment; real time ("returned / not
started") is a case of it. -/
theorem Inv.commit_order {v0 : Vis} {c : Cfg} (h : Inv v0 c) (sched : List Nat) {i j : Nat}
    {ti tj : Th} {r : Res} (hi : c.ths[i]? = some ti) (hci : phaseRes ti.phase = some r)
    (hj : c.ths[j]? = some tj) (hnj : phaseRes tj.phase = none) :
    ∃ pre post ch, (Conc.run c sched).log = pre ++ (i, ti.call, ch, r) :: post ∧
      (∀ e ∈ pre, e.1 ≠ j) ∧ (∀ e ∈ pre, e.1 ≠ i) ∧ (∀ e ∈ post, e.1 ≠ i) := by
  obtain ⟨⟨ch, hm⟩, _⟩ := h.entry i ti r hi hci
  obtain ⟨pre, post, hl⟩ := List.append_of_mem hm
  obtain ⟨hlen, ext, hext⟩ := run_frame c sched
  have hlog : (Conc.run c sched).log = pre ++ (i, ti.call, ch, r) :: (post ++ ext) := by
    rw [← hext, hl, List.append_assoc, List.cons_append]
  obtain ⟨hpre, hpost⟩ := (h.run sched).entry_unique
    (hlen ▸ (List.getElem?_eq_some_iff.mp hi).1) hlog rfl
  refine ⟨pre, post ++ ext, ch, hlog, fun e he => ?_, hpre, hpost⟩
  exact h.noEntry j tj hj hnj e (by rw [hl]; exact List.mem_append_left _ he)

theorem realtime_order_unique (v0 : Vis) (ths : List Th) (h : Fresh ths) (s1 s2 : List Nat)
    (i j : Nat) (ti tj : Th) (r : Res)
    (hi : (run (init v0 ths) s1).ths[i]? = some ti) (hdi : ti.phase = .done r)
    (hj : (run (init v0 ths) s1).ths[j]? = some tj) (hsj : tj.phase = .start) :
    ∃ pre post ei, (run (init v0 ths) (s1 ++ s2)).log = pre ++ ei :: post ∧ ei.1 = i ∧
      (∀ e ∈ pre, e.1 ≠ j) ∧ (∀ e ∈ pre, e.1 ≠ i) ∧ (∀ e ∈ post, e.1 ≠ i) := by
  obtain ⟨pre, post, ch, hl, hp⟩ := (inv_reachable v0 ths h s1).commit_order s2 hi
    (by rw [hdi]; rfl) hj (by rw [hsj]; rfl)
  exact ⟨pre, post, _, by rw [run_append, hl], rfl, hp⟩

theorem realtime_order (v0 : Vis) (ths : List Th) (h : Fresh ths) (s1 s2 : List Nat) (i j : Nat)
    (ti tj : Th) (r : Res)
    (hi : (run (init v0 ths) s1).ths[i]? = some ti) (hdi : ti.phase = .done r)
    (hj : (run (init v0 ths) s1).ths[j]? = some tj) (hsj : tj.phase = .start) :
    ∃ pre post ei, (run (init v0 ths) (s1 ++ s2)).log = pre ++ ei :: post ∧ ei.1 = i ∧
      (∀ e ∈ pre, e.1 ≠ j) ∧ (∀ e ∈ pre, e.1 ≠ i) := by
  obtain ⟨pre, post, ei, hl, hei, hpj, hpi, _⟩ :=
    realtime_order_unique v0 ths h s1 s2 i j ti tj r hi hdi hj hsj
  exact ⟨pre, post, ei, hl, hei, hpj, hpi⟩

theorem writer_exclusive (v0 : Vis) (ths : List Th) (h : Fresh ths) (sched : List Nat)
    (i j : Nat) (ti tj : Th)
    (hi : (run (init v0 ths) sched).ths[i]? = some ti) (hj : (run (init v0 ths) sched).ths[j]? = some tj)
    (hwi : holdsW ti.phase = true) (hwj : holdsW tj.phase = true) : i = j :=
  (inv_reachable v0 ths h sched).heldW.exclusive hi hj hwi hwj

theorem deleter_exclusive (v0 : Vis) (ths : List Th) (h : Fresh ths) (sched : List Nat)
    (i j : Nat) (ti tj : Th)
    (hi : (run (init v0 ths) sched).ths[i]? = some ti) (hj : (run (init v0 ths) sched).ths[j]? = some tj)
    (hdi : holdsD ti.phase = true) (hdj : holdsD tj.phase = true) : i = j :=
  (inv_reachable v0 ths h sched).heldD.exclusive hi hj hdi hdj

/-- The swap of a Delete waits while any Publish holds the writer lock: a Delete cannot commit
between a Publish's file write and its index append. -/
theorem delete_commit_waits {v0 : Vis} {c : Cfg} (inv : Inv v0 c) {i k : Nat} {t tk : Th}
    {offs : List Int} {ms : List Msg}
    (hi : c.ths[i]? = some t) (hc : t.call = .delete offs) (hp : t.phase = .delRewritten ms)
    (hk : c.ths[k]? = some tk) (hwk : holdsW tk.phase = true) : step c i = c := by
  have hw := (inv.wmu k tk hk).mp hwk
  simp [step, hi, hc, hp, hw]

/-! ### publishers receive disjoint consecutive ranges -/

theorem replay_next' (v : Vis) (log : List Entry) :
    (replay v log).next = v.next +
      ((log.filterMap (fun e => match e.2.1 with
        | .publish b => some (b.length : Int) | _ => none)).sum) := by
  -- `replay`, `filterMap` and `sum` unfold on `[]` and on the head entry: only a publish adds to `next`
  induction log generalizing v with
  | nil => exact (Int.add_zero _).symm
  | cons e rest ih =>
    obtain ⟨i, c, ch, r⟩ := e
    rw [replay, ih]
    cases c with
    | publish b => exact Int.add_assoc _ _ _
    | read q => rfl
    | delete offs => rfl

theorem replay_next (v : Vis) (log : List Entry) (_h : LogOK v log) :
    (replay v log).next = v.next +
      ((log.filterMap (fun e => match e.2.1 with
        | .publish b => some (b.length : Int) | _ => none)).sum) :=
  replay_next' v log

theorem publish_entry_range (v : Vis) (pre post : List Entry) (i : Nat) (b : Batch)
    (ch : List Msg) (r : Res)
    (h : LogOK v (pre ++ (i, Call.publish b, ch, r) :: post)) :
    r = .next ((replay v pre).next + b.length) := by
  rw [logOK_append] at h
  exact h.2.2.1.symm

theorem publish_entry_live (v : Vis) (pre : List Entry) (i : Nat) (b : Batch)
    (ch : List Msg) (r : Res) :
    (replay v (pre ++ [(i, Call.publish b, ch, r)])).live =
      (replay v pre).live ++ stamp (replay v pre).next b := by
  rw [replay_snoc]; rfl

theorem stamp_length (n : Int) (b : Batch) : (stamp n b).length = b.length := by
  induction b generalizing n with
  | nil => rfl
  | cons x rest ih => obtain ⟨t, k, v⟩ := x; simp [stamp, ih]

theorem stamp_range (n : Int) (b : Batch) :
    ∀ m ∈ stamp n b, n ≤ m.off ∧ m.off < n + b.length := by
  induction b generalizing n with
  | nil => intro m hm; cases hm
  | cons x rest ih =>
    obtain ⟨t, k, v⟩ := x
    intro m hm
    simp only [stamp, List.mem_cons] at hm
    rcases hm with rfl | hm
    · simp only [List.length_cons]; omega
    · have := ih (n + 1) m hm
      simp only [List.length_cons]; omega

/-! ### a visible message disappears only by a Delete that reports it -/

theorem no_unreported_loss (v : Vis) (log : List Entry) (h : LogOK v log) (m : Msg)
    (hm : m ∈ v.live) (hgone : m ∉ (replay v log).live) :
    ∃ e ∈ log, ∃ offs, e.2.1 = Call.delete offs ∧ m ∈ e.2.2.1 ∧ e.2.2.2 = .deleted e.2.2.1 := by
  induction log generalizing v with
  | nil => exact absurd hm hgone
  | cons e rest ih =>
    obtain ⟨i, c, ch, r⟩ := e
    by_cases hm' : m ∈ (seqStep v c ch).1.live
    · obtain ⟨e, he, hx⟩ := ih _ h.2.2 hm' hgone
      exact ⟨e, List.mem_cons_of_mem _ he, hx⟩
    · obtain ⟨⟨offs, rfl⟩, hc⟩ := seqStep_lost hm hm'
      exact ⟨_, List.mem_cons_self, offs, rfl, hc, h.2.1.symm⟩

theorem unreported_stays (v : Vis) (log : List Entry) (h : LogOK v log) (m : Msg)
    (hm : m ∈ v.live)
    (hnever : ∀ e ∈ log, ∀ offs, e.2.1 = Call.delete offs → m ∉ e.2.2.1) :
    m ∈ (replay v log).live :=
  Decidable.byContradiction fun hgone =>
    let ⟨e, he, offs, hc, hin, _⟩ := no_unreported_loss v log h m hm hgone
    hnever e he offs hc hin

theorem replay_live_origin (v : Vis) (log : List Entry) :
    ∀ m ∈ (replay v log).live, m ∈ v.live ∨
      ∃ pre e post b, log = pre ++ e :: post ∧ e.2.1 = Call.publish b ∧
        m ∈ stamp (replay v pre).next b := by
  induction log generalizing v with
  | nil => intro m hm; exact Or.inl hm
  | cons e rest ih =>
    obtain ⟨i, c, ch, r⟩ := e
    intro m hm
    rcases ih _ m hm with h1 | ⟨pre, e, post, b, rfl, hb, hs⟩
    · rcases seqStep_gained h1 with h2 | ⟨b, rfl, h2⟩
      · exact Or.inl h2
      · exact Or.inr ⟨[], _, rest, b, rfl, rfl, h2⟩
    · exact Or.inr ⟨(i, c, ch, r) :: pre, e, post, b, rfl, hb, hs⟩

instance instDecLegalChoice (v : Vis) : (c : Call) → (ch : List Msg) → Decidable (LegalChoice v c ch)
  | .delete offs, ch => inferInstanceAs (Decidable (∀ m ∈ ch, m ∈ v.live ∧ m.off ∈ offs))
  | .publish _, ch => inferInstanceAs (Decidable (ch = []))
  | .read _, ch => inferInstanceAs (Decidable (ch = []))

instance instDecLogOK : (v : Vis) → (l : List Entry) → Decidable (LogOK v l)
  | _, [] => inferInstanceAs (Decidable True)
  | v, (_, c, ch, r) :: rest =>
    have := instDecLogOK (seqStep v c ch).1 rest
    inferInstanceAs (Decidable (LegalChoice v c ch ∧ (seqStep v c ch).2 = r ∧
      LogOK (seqStep v c ch).1 rest))

namespace Ex

def m0 : Msg := ⟨0, 10, [], []⟩
def m1 : Msg := ⟨1, 11, [1], [2]⟩
def m2 : Msg := ⟨2, 20, [3], [4]⟩
def m3 : Msg := ⟨3, 21, [], [5]⟩
def v0 : Vis := ⟨[m0, m1], 2⟩

/-- thread 0 publishes two messages, thread 1 deletes offset 0, thread 2 reads -/
def ths : List Th :=
  [ { call := .publish [(20, [3], [4]), (21, [], [5])] },
    { call := .delete [0], picks := [[m0]] },
    { call := .read 7 } ]

/-- P locks, D locks, P writes its files, D chooses and rewrites, D tries to swap (blocked: the
writer lock is held), the read, P appends to the index (commit), D tries again (still blocked),
P releases, D swaps (commit), D releases. -/
def sched : List Nat := [0, 1, 0, 1, 1, 2, 0, 1, 0, 1, 1]

example : Fresh ths := by unfold Fresh; decide +kernel

-- in the middle: files written, delete target rewritten, nothing visible has changed
example : (run (init v0 ths) [0, 1, 0, 1]).vis = v0 := by decide +kernel
example : (run (init v0 ths) [0, 1, 0, 1]).ths.map (·.phase) =
    [.pubWritten [m2, m3], .delRewritten [m0], .start] := by decide +kernel
-- the swap waits for the writer lock
example : run (init v0 ths) [0, 1, 0, 1, 1] = run (init v0 ths) [0, 1, 0, 1] := by decide +kernel

example : (run (init v0 ths) sched).vis = ⟨[m1, m2, m3], 4⟩ := by decide +kernel
example : (run (init v0 ths) sched).ths.map (·.phase) =
    [.done (.next 4), .done (.deleted [m0]), .done (.answer 7 v0)] := by decide +kernel
example : (run (init v0 ths) sched).log.map (·.1) = [2, 0, 1] := by decide +kernel
example : (run (init v0 ths) sched).log =
    [(2, .read 7, [], .answer 7 v0),
     (0, .publish [(20, [3], [4]), (21, [], [5])], [], .next 4),
     (1, .delete [0], [m0], .deleted [m0])] := by decide +kernel
example : (run (init v0 ths) sched).writerMu = none ∧ (run (init v0 ths) sched).deleteMu = none := by
  decide +kernel
example : LogOK v0 (run (init v0 ths) sched).log := by decide +kernel
example : replay v0 (run (init v0 ths) sched).log = (run (init v0 ths) sched).vis := by decide +kernel

-- another order: the delete commits first, the read sees its effect but not the publish
example : (run (init v0 ths) [1, 1, 1, 0, 2, 1, 0, 0, 0]).log.map (·.1) = [1, 2, 0] := by decide +kernel
example : (run (init v0 ths) [1, 1, 1, 0, 2, 1, 0, 0, 0]).ths.map (·.phase) =
    [.done (.next 4), .done (.deleted [m0]), .done (.answer 7 ⟨[m1], 2⟩)] := by decide +kernel
example : (run (init v0 ths) [1, 1, 1, 0, 2, 1, 0, 0, 0]).vis = ⟨[m1, m2, m3], 4⟩ := by decide +kernel

/-- a pick that is not requested (offset 1) or not live is not taken: the Delete reports nothing -/
def thsStale : List Th :=
  [ { call := .delete [0], picks := [[m1]] }, { call := .delete [5], picks := [[m3]] } ]

example : (run (init v0 thsStale) [0, 0, 0, 0, 1, 1, 1, 1]).log =
    [(0, .delete [0], [], .deleted []), (1, .delete [5], [], .deleted [])] := by decide +kernel
example : (run (init v0 thsStale) [0, 0, 0, 0, 1, 1, 1, 1]).vis = v0 := by decide +kernel
-- two Deletes are serialized by deleteMu: the second cannot start while the first holds it
example : run (init v0 thsStale) [0, 1] = run (init v0 thsStale) [0] := by decide +kernel

-- the specification can fail: a log whose result is not the sequential one is not `LogOK`
example : ¬ LogOK v0 [(0, .publish [(20, [3], [4])], [], .next 5)] := by decide +kernel
example : ¬ LogOK v0 [(1, .delete [0], [m1], .deleted [m1])] := by decide +kernel

end Ex

#print axioms inv_reachable
#print axioms linearizable
#print axioms done_result_in_log
#print axioms realtime_order
#print axioms realtime_order_unique
#print axioms writer_exclusive
#print axioms deleter_exclusive
#print axioms delete_commit_waits
#print axioms replay_next
#print axioms publish_entry_range
#print axioms publish_entry_live
#print axioms stamp_range
#print axioms no_unreported_loss
#print axioms unreported_stays
#print axioms replay_live_origin

end Klev.Conc
