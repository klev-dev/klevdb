/-
The index file round trip (`Klev/Codec.lean`): what `index.Write` renders, `index.Read`
parses back — version, and every item with the fields the layout does not store zeroed.

A V1 index file has no header; `index.headerParse` recognises it by its first eight bytes
being the segment's base offset, *after* testing for the V2 magic `FF 6B 6C 65 76 69`.
A V1 file whose first item's offset had those six top bytes would be misread; an offset
≥ 0 has a top byte < 0x80, so this cannot happen for the offsets klevdb produces.
-/
import Klev.Codec
import Klev.Proofs.Bytes
import Klev.Proofs.Codec
namespace Klev

/-- What an index file keeps of an item: the fields the layout does not store read back 0. -/
def Item.mask (p : Params) (it : Item) : Item :=
  { it with ts := if p.times then it.ts else 0, kh := if p.keys then it.kh else 0 }

/-- The fields an index file stores fit their 8-byte slots. -/
def Item.InRange (p : Params) (it : Item) : Prop :=
  -(two63 : Int) ≤ it.off ∧ it.off < (two63 : Int) ∧ -(two63 : Int) ≤ it.pos ∧
    it.pos < (two63 : Int) ∧ (p.times = true → -(two63 : Int) ≤ it.ts ∧ it.ts < (two63 : Int))

theorem idxHdr_v2_length (p : Params) : (idxHdr p .v2).length = 8 := by
  simp [idxHdr, idxMagic, Gen.idxMagic]

theorem idxVersion_v2 (p : Params) (data : List UInt8) (base : Int) :
    idxVersion p (idxHdr p .v2 ++ data) base = .ok .v2 := by
  unfold idxVersion
  dsimp only
  -- the first eight bytes are the header; its first six are the magic by evaluation
  rw [List.take_left' (idxHdr_v2_length p), if_pos (by rfl)]
  obtain ⟨t, k⟩ := p
  cases t <;> cases k <;> decide

theorem size_toNat_pos (p : Params) : 0 < p.size.toNat := by
  obtain ⟨t, k⟩ := p
  cases t <;> cases k <;> decide

theorem encItem_length_nat (p : Params) (it : Item) : (encItem p it).length = p.size.toNat := by
  rw [← encItem_length p it, Int.toNat_natCast]

theorem chunks_flatMap {α : Type} (n : Nat) (hn : 0 < n) (f : α → List UInt8) (xs : List α)
    (hf : ∀ x ∈ xs, (f x).length = n) :
    ∀ fuel, xs.length < fuel → chunks n fuel (xs.flatMap f) = xs.map f := by
  induction xs with
  | nil =>
    intro fuel _
    cases fuel <;> simp [chunks]
  | cons x xs ih =>
    intro fuel hfuel
    cases fuel with
    | zero => exact absurd hfuel (Nat.not_lt_zero _)
    | succ fuel =>
      have hx : (f x).length = n := hf x List.mem_cons_self
      have hne : ¬ ((f x ++ xs.flatMap f).isEmpty = true ∨ n = 0) := by
        rw [List.isEmpty_iff, List.append_eq_nil_iff]
        rintro (⟨h, _⟩ | h)
        · rw [h] at hx
          exact Nat.ne_of_gt hn hx.symm
        · exact Nat.ne_of_gt hn h
      rw [List.flatMap_cons, chunks, if_neg hne, List.take_left' hx, List.drop_left' hx,
        ih (fun y hy => hf y (List.mem_cons_of_mem _ hy)) fuel (Nat.lt_of_succ_lt_succ hfuel),
        List.map_cons]

theorem flatMap_length_const {α : Type} (n : Nat) (f : α → List UInt8) (xs : List α)
    (hf : ∀ x ∈ xs, (f x).length = n) : (xs.flatMap f).length = n * xs.length := by
  rw [List.length_flatMap, List.map_congr_left hf, List.map_const', List.sum_replicate_nat,
    Nat.mul_comm]

theorem decItems_encItems (p : Params) (items : List Item) (hr : ∀ it ∈ items, it.InRange p)
    (fuel : Nat) (hfuel : items.length < fuel) :
    (chunks p.size.toNat fuel (items.flatMap (encItem p))).map (decItem p) =
      items.map (Item.mask p) := by
  rw [chunks_flatMap _ (size_toNat_pos p) _ _ (fun it _ => encItem_length_nat p it) fuel hfuel,
    List.map_map]
  apply List.map_congr_left
  intro it hit
  obtain ⟨a, b, c, d, e⟩ := hr it hit
  exact decItem_encItem p it a b c d e

theorem parseIdx_renderIdx_of_version (p : Params) (v : Ver) (items : List Item) (base : Int)
    (hr : ∀ it ∈ items, it.InRange p) (h8 : 8 ≤ (renderIdx p v items).length)
    (hv : idxVersion p (renderIdx p v items) base = .ok v) :
    parseIdx p (renderIdx p v items) base = .ok (v, items.map (Item.mask p)) := by
  have hfl := flatMap_length_const p.size.toNat (encItem p) items
    (fun it _ => encItem_length_nat p it)
  have tail : ∀ data, data = items.flatMap (encItem p) →
      (if data.length % p.size.toNat ≠ 0 then Except.error IdxErr.size
        else .ok (v, (chunks p.size.toNat (data.length + 1) data).map (decItem p))) =
      .ok (v, items.map (Item.mask p)) := by
    intro data hd
    have := Nat.le_mul_of_pos_left items.length (size_toNat_pos p)
    rw [hd, hfl, if_neg (by simp [Nat.mul_mod_right]),
      decItems_encItems p items hr _ (Nat.lt_succ_of_le this)]
  unfold parseIdx
  rw [if_neg (by omega), if_neg (Nat.not_lt.mpr h8), hv]
  cases v
  · exact tail _ rfl
  · exact tail _ (List.drop_left' (idxHdr_v2_length p))

theorem be8_take6_ne_magic (x : Nat) (hx : x < two63) (l : List UInt8) :
    ((be 8 x ++ l).take 8).take 6 ≠ idxMagic := by
  intro h
  have h0 : some (UInt8.ofNat (x / 256 ^ 7 % 256)) = some 255 := congrArg List.head? h
  -- `two63 = 256 ^ 7 * 128`
  have hlt : x / 256 ^ 7 < 128 := Nat.div_lt_of_lt_mul hx
  have h1 : x / 256 ^ 7 % 256 = 255 :=
    (UInt8.toNat_ofNat_of_lt' (Nat.mod_lt _ (by decide : 0 < 256))).symm.trans
      (congrArg UInt8.toNat (Option.some.inj h0))
  omega

theorem idxVersion_v1 (p : Params) (off : Int) (l : List UInt8) (h0 : 0 ≤ off)
    (h1 : off < (two63 : Int)) : idxVersion p (be 8 (u64 off) ++ l) off = .ok .v1 := by
  have hu : u64 off < two63 := by
    rw [u64, Int.emod_eq_of_lt h0 (Int.lt_trans h1 (by decide : (two63 : Int) < two64))]
    exact (Int.toNat_lt h0).mpr h1
  unfold idxVersion
  dsimp only
  rw [if_neg (be8_take6_ne_magic _ hu l), List.take_left' (be_length 8 _),
    i64_field off (Int.le_trans (by decide : -(two63 : Int) ≤ 0) h0) h1, if_pos rfl]

theorem parseIdx_renderIdx (p : Params) (iv : Ver) (items : List Item) (base : Int)
    (hr : ∀ it ∈ items, it.InRange p)
    (hv1 : iv = .v1 → ∀ it ∈ items.head?, it.off = base ∧ 0 ≤ base) :
    parseIdx p (renderIdx p iv items) base = .ok (iv, items.map (Item.mask p)) := by
  have hfl := flatMap_length_const p.size.toNat (encItem p) items
    (fun it _ => encItem_length_nat p it)
  cases iv with
  | v2 =>
    exact parseIdx_renderIdx_of_version p .v2 items base hr
      (by rw [renderIdx, List.length_append, idxHdr_v2_length]; exact Nat.le_add_right _ _)
      (idxVersion_v2 p _ base)
  | v1 =>
    cases items with
    | nil => rfl
    | cons it rest =>
      obtain ⟨hoff, hb⟩ := hv1 rfl it rfl
      have h16 : 16 ≤ p.size.toNat := by
        obtain ⟨t, k⟩ := p
        cases t <;> cases k <;> decide
      refine parseIdx_renderIdx_of_version p .v1 _ base hr ?_ ?_
      · rw [renderIdx, idxHdr, List.nil_append, hfl, List.length_cons, Nat.mul_succ]
        omega
      · rw [renderIdx, idxHdr, List.nil_append, List.flatMap_cons, encItem, List.append_assoc,
          List.append_assoc, List.append_assoc, ← hoff]
        exact idxVersion_v1 p it.off _ (hoff ▸ hb) (hr it List.mem_cons_self).2.1

/-! ### the V1 side conditions are needed

Without "first offset = base" a V1 index file is not recognised at all; with a negative
base whose top six bytes are the index magic it is taken for a V2 file. -/

theorem parseIdx_renderIdx_v1_needs_base :
    parseIdx ⟨false, false⟩ (renderIdx ⟨false, false⟩ .v1 [⟨5, 8, 0, 0⟩]) 0 =
      .error (.hdr .magicNotFound) := by decide

/-- `-41820588495798016 = int64(0xFF6B6C6576690100)`. -/
theorem parseIdx_renderIdx_v1_needs_nonneg :
    parseIdx ⟨false, false⟩ (renderIdx ⟨false, false⟩ .v1 [⟨-41820588495798016, 8, 0, 0⟩])
      (-41820588495798016) = .error .size := by decide

end Klev

#print axioms Klev.chunks_flatMap
#print axioms Klev.idxVersion_v2
#print axioms Klev.idxVersion_v1
#print axioms Klev.parseIdx_renderIdx_of_version
#print axioms Klev.parseIdx_renderIdx
#print axioms Klev.parseIdx_renderIdx_v1_needs_base
#print axioms Klev.parseIdx_renderIdx_v1_needs_nonneg
