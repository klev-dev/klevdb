/-
Damage to a whole V2 segment log file `render .v2 ms`, read at the record positions
`(render .v2 (ms.take j)).length` (the `j`-th position of `layout .v2 ms`: `pos_eq_layout`).
The per-record theorems of `Damage.lean` and `TornAppend.lean` are lifted to the file by
`record_reads`: a read depends only on the bytes of the record it reads, so any file that agrees
with the rendered one on that window reads the record back.
-/
import Klev.Proofs.ScanProofs
import Klev.Proofs.Layout
import Klev.Proofs.Damage
import Klev.Proofs.TornAppend
namespace Klev

theorem record_reads (v : Ver) (ms : List Msg) (h : ∀ m ∈ ms, m.Encodable) (j : Nat)
    (hj : j < ms.length) (f : List UInt8)
    (hf : slice f (render v (ms.take j)).length (enc v ms[j]).length =
      slice (render v ms) (render v (ms.take j)).length (enc v ms[j]).length) :
    dec v f (render v (ms.take j)).length = .ok ms[j] (render v (ms.take (j + 1))).length := by
  have hs : slice (render v ms) (render v (ms.take j)).length (enc v ms[j]).length = enc v ms[j] := by
    rw [render_split v ms j hj]
    exact slice_block _ _ _
  rw [dec_of_slice v f _ ms[j] (h _ (List.getElem_mem hj)) (hf.trans hs),
    render_take_succ_length v ms j hj]

/-- Every record of an undamaged file reads back from its position, and the read ends at the
position of the next record. -/
theorem file_reads (ms : List Msg) (h : ∀ m ∈ ms, m.Encodable) (j : Nat) (hj : j < ms.length) :
    dec .v2 (render .v2 ms) (render .v2 (ms.take j)).length =
      .ok ms[j] (render .v2 (ms.take (j + 1))).length :=
  record_reads .v2 ms h j hj _ rfl

/-- The file with the bytes of record `i` replaced by `r`. -/
def replacedFile (ms : List Msg) (i : Nat) (r : List UInt8) : List UInt8 :=
  render .v2 (ms.take i) ++ r ++ encAll .v2 (ms.drop (i + 1))

theorem replacedFile_reads (ms : List Msg) (h : ∀ m ∈ ms, m.Encodable) (i : Nat)
    (hi : i < ms.length) (r : List UInt8) (hr : r.length = (enc .v2 ms[i]).length) (e : Dec)
    (he : dec .v2 (replacedFile ms i r) (render .v2 (ms.take i)).length = e)
    (j : Nat) (hj : j < ms.length) :
    (replacedFile ms i r).length = (render .v2 ms).length ∧
    dec .v2 (replacedFile ms i r) (render .v2 (ms.take j)).length =
      if j = i then e else .ok ms[j] (render .v2 (ms.take (j + 1))).length := by
  constructor
  · rw [replacedFile, render_split .v2 ms i hi]
    simp only [List.length_append, hr]
  by_cases hji : j = i
  · rw [if_pos hji, hji, he]
  · rw [if_neg hji]
    refine record_reads .v2 ms h j hj _ ?_
    rw [replacedFile, render_split .v2 ms i hi]
    -- record `j` ends where record `i` starts or earlier, or starts where it ends or later
    refine slice_replace _ _ _ _ hr _ _ ?_
    rw [hr, ← render_take_succ_length .v2 ms j hj, ← render_take_succ_length .v2 ms i hi]
    rcases Nat.lt_or_gt_of_ne hji with hlt | hgt
    · exact .inr (render_take_length_mono .v2 ms hlt)
    · exact .inl (render_take_length_mono .v2 ms hgt)

/-- The file with body bytes `d1` of record `i` (`v2Body ms[i] = a ++ d1 ++ z`) replaced by
`d2`; the stored CRC of the record is the original one. -/
def damagedFile (ms : List Msg) (i : Nat) (hi : i < ms.length) (a d2 z : List UInt8) :
    List UInt8 :=
  render .v2 (ms.take i) ++ (crcBytes (v2Body ms[i]) ++ (a ++ d2 ++ z)) ++
    encAll .v2 (ms.drop (i + 1))

/-- One record damaged by a burst of at most four body bytes outside the two length fields:
the file keeps its length, the damaged record reads as a CRC error, and every other record
reads back unchanged from its position. -/
theorem damaged_file_reads (ms : List Msg) (h : ∀ m ∈ ms, m.Encodable) (i : Nat)
    (hi : i < ms.length) (a d1 d2 z : List UInt8) (hsplit : v2Body ms[i] = a ++ d1 ++ z)
    (hl : d1.length = d2.length) (h4 : d1.length ≤ 4) (hne : d1 ≠ d2)
    (hlenFields : a.length + d1.length ≤ 16 ∨ 24 ≤ a.length)
    (j : Nat) (hj : j < ms.length) :
    (damagedFile ms i hi a d2 z).length = (render .v2 ms).length ∧
    dec .v2 (damagedFile ms i hi a d2 z) (render .v2 (ms.take j)).length =
      if j = i then .bad .crc else .ok ms[j] (render .v2 (ms.take (j + 1))).length := by
  have hr : (crcBytes (v2Body ms[i]) ++ (a ++ d2 ++ z)).length = (enc .v2 ms[i]).length := by
    rw [enc, encV2, hsplit]
    simp only [List.length_append, hl]
  refine replacedFile_reads ms h i hi _ hr _ ?_ j hj
  rw [replacedFile, ← List.append_assoc (render .v2 (ms.take i))]
  exact v2_body_damage _ _ ms[i] (h _ (List.getElem_mem hi)) a d1 d2 z hsplit hl h4 hne hlenFields

/-- The file with the stored CRC of record `i` replaced by `c'`. -/
def crcDamagedFile (ms : List Msg) (i : Nat) (hi : i < ms.length) (c' : List UInt8) :
    List UInt8 :=
  render .v2 (ms.take i) ++ (c' ++ v2Body ms[i]) ++ encAll .v2 (ms.drop (i + 1))

theorem crc_damaged_file_reads (ms : List Msg) (h : ∀ m ∈ ms, m.Encodable) (i : Nat)
    (hi : i < ms.length) (c' : List UInt8) (hc : c'.length = 4)
    (hne : c' ≠ crcBytes (v2Body ms[i])) (j : Nat) (hj : j < ms.length) :
    (crcDamagedFile ms i hi c').length = (render .v2 ms).length ∧
    dec .v2 (crcDamagedFile ms i hi c') (render .v2 (ms.take j)).length =
      if j = i then .bad .crc else .ok ms[j] (render .v2 (ms.take (j + 1))).length := by
  have hr : (c' ++ v2Body ms[i]).length = (enc .v2 ms[i]).length := by
    rw [enc, encV2, List.length_append, List.length_append, hc, crcBytes_length]
  refine replacedFile_reads ms h i hi _ hr _ ?_ j hj
  rw [replacedFile, ← List.append_assoc (render .v2 (ms.take i))]
  exact v2_crc_field_damage _ _ ms[i] (h _ (List.getElem_mem hi)) c' hc hne

theorem truncated_file_class (ms : List Msg) (h : ∀ m ∈ ms, m.Encodable) (c : Nat) (j : Nat)
    (hj : j < ms.length) (hc : c < (render .v2 (ms.take (j + 1))).length) :
    dec .v2 ((render .v2 ms).take c) (render .v2 (ms.take j)).length =
      if c ≤ (render .v2 (ms.take j)).length then .eof
      else if c < (render .v2 (ms.take j)).length + 28 then .bad .shortHeader
      else .bad .shortData := by
  by_cases hle : c ≤ (render .v2 (ms.take j)).length
  · rw [if_pos hle]
    exact (dec_eof_iff .v2 _ _).mpr (Nat.le_trans (List.length_take_le _ _) hle)
  · -- the cut file is the records before `j` and the first bytes of record `j`
    have hpc : (render .v2 (ms.take j)).length < c := Nat.lt_of_not_le hle
    rw [render_take_succ_length .v2 ms j hj] at hc
    rw [if_neg hle, render_split .v2 ms j hj,
      take_inside _ _ _ c (Nat.le_of_lt hpc) (Nat.le_of_lt hc),
      torn_record_class .v2 (render .v2 (ms.take j)) ms[j] (h _ (List.getElem_mem hj))
        (c - (render .v2 (ms.take j)).length) (Nat.sub_lt_left_of_lt_add (Nat.le_of_lt hpc) hc),
      if_neg (Nat.sub_ne_zero_of_lt hpc)]
    simp only [Nat.sub_lt_iff_lt_add' (Nat.le_of_lt hpc)]

/-- The file cut to `c` bytes: every record that lies wholly below the cut reads back from
its position; every other record never parses. -/
theorem truncated_file_reads (ms : List Msg) (h : ∀ m ∈ ms, m.Encodable) (c : Nat) (j : Nat)
    (hj : j < ms.length) :
    let f := (render .v2 ms).take c
    ((render .v2 (ms.take (j + 1))).length ≤ c →
      dec .v2 f (render .v2 (ms.take j)).length =
        .ok ms[j] (render .v2 (ms.take (j + 1))).length) ∧
    (c < (render .v2 (ms.take (j + 1))).length →
      ∀ m n, dec .v2 f (render .v2 (ms.take j)).length ≠ .ok m n) := by
  intro f
  constructor
  · intro hc
    refine record_reads .v2 ms h j hj _ (slice_take _ _ _ _ ?_)
    rwa [← render_take_succ_length .v2 ms j hj]
  · intro hc m n
    rw [show f = (render .v2 ms).take c from rfl, truncated_file_class ms h c j hj hc]
    exact ite_ne nofun (ite_ne nofun nofun)

/-- The damaged files of this module: one record hit by a burst of at most four body bytes
outside the length fields, one record's stored CRC changed, or the file cut short. -/
inductive FileDamage (ms : List Msg) : List UInt8 → Prop
  | body (i : Nat) (hi : i < ms.length) (a d1 d2 z : List UInt8)
      (hsplit : v2Body ms[i] = a ++ d1 ++ z) (hl : d1.length = d2.length) (h4 : d1.length ≤ 4)
      (hne : d1 ≠ d2) (hlenFields : a.length + d1.length ≤ 16 ∨ 24 ≤ a.length) :
      FileDamage ms (damagedFile ms i hi a d2 z)
  | crc (i : Nat) (hi : i < ms.length) (c' : List UInt8) (hc : c'.length = 4)
      (hne : c' ≠ crcBytes (v2Body ms[i])) : FileDamage ms (crcDamagedFile ms i hi c')
  | cut (c : Nat) : FileDamage ms ((render .v2 ms).take c)

/-- In every one of those damaged files, a read at the position the index holds for record
`j` either fails or returns exactly `ms[j]` (and ends at the position of the next record):
damage is never returned as a different message. -/
theorem damaged_never_other (ms : List Msg) (h : ∀ m ∈ ms, m.Encodable) (f : List UInt8)
    (hf : FileDamage ms f) (j : Nat) (hj : j < ms.length) (m : Msg) (n : Nat)
    (hd : dec .v2 f (render .v2 (ms.take j)).length = .ok m n) :
    m = ms[j] ∧ n = (render .v2 (ms.take (j + 1))).length := by
  have key : ∀ i : Nat, (if j = i then Dec.bad .crc
      else .ok ms[j] (render .v2 (ms.take (j + 1))).length) = .ok m n →
      m = ms[j] ∧ n = (render .v2 (ms.take (j + 1))).length := by
    intro i he
    by_cases hji : j = i
    · rw [if_pos hji] at he
      cases he
    · rw [if_neg hji] at he
      cases he
      exact ⟨rfl, rfl⟩
  cases hf with
  | body i hi a d1 d2 z hsplit hl h4 hne hlenFields =>
    rw [(damaged_file_reads ms h i hi a d1 d2 z hsplit hl h4 hne hlenFields j hj).2] at hd
    exact key i hd
  | crc i hi c' hc hne =>
    rw [(crc_damaged_file_reads ms h i hi c' hc hne j hj).2] at hd
    exact key i hd
  | cut c =>
    obtain ⟨h1, h2⟩ := truncated_file_reads ms h c j hj
    by_cases hc : (render .v2 (ms.take (j + 1))).length ≤ c
    · rw [h1 hc] at hd
      cases hd
      exact ⟨rfl, rfl⟩
    · exact absurd hd (h2 (Nat.lt_of_not_le hc) m n)

/-- The three cases spelled out, without the inductive predicate. -/
theorem damaged_never_other' (ms : List Msg) (h : ∀ m ∈ ms, m.Encodable) (j : Nat)
    (hj : j < ms.length) :
    (∀ (i : Nat) (hi : i < ms.length) (a d1 d2 z : List UInt8),
      v2Body ms[i] = a ++ d1 ++ z → d1.length = d2.length → d1.length ≤ 4 → d1 ≠ d2 →
      (a.length + d1.length ≤ 16 ∨ 24 ≤ a.length) →
      ∀ m n, dec .v2 (damagedFile ms i hi a d2 z) (render .v2 (ms.take j)).length = .ok m n →
        m = ms[j]) ∧
    (∀ (i : Nat) (hi : i < ms.length) (c' : List UInt8), c'.length = 4 →
      c' ≠ crcBytes (v2Body ms[i]) →
      ∀ m n, dec .v2 (crcDamagedFile ms i hi c') (render .v2 (ms.take j)).length = .ok m n →
        m = ms[j]) ∧
    (∀ (c : Nat) m n,
      dec .v2 ((render .v2 ms).take c) (render .v2 (ms.take j)).length = .ok m n → m = ms[j]) :=
  ⟨fun i hi a d1 d2 z hsplit hl h4 hne hlf m n hd =>
      (damaged_never_other ms h _ (.body i hi a d1 d2 z hsplit hl h4 hne hlf) j hj m n hd).1,
   fun i hi c' hc hne m n hd =>
      (damaged_never_other ms h _ (.crc i hi c' hc hne) j hj m n hd).1,
   fun c m n hd => (damaged_never_other ms h _ (.cut c) j hj m n hd).1⟩

/-- Three records: positions 8, 46, 85; the file is 123 bytes. -/
def fileDemo : List Msg :=
  [⟨0, 1000, [1], [7]⟩, ⟨1, 1001, [1, 2], [9]⟩, ⟨2, 1002, [], [4, 4]⟩]

theorem fileDemo_encodable : ∀ m ∈ fileDemo, m.Encodable := by
  intro m hm
  simp only [fileDemo, List.mem_cons, List.not_mem_nil, or_false] at hm
  rcases hm with rfl | rfl | rfl <;>
    (simp only [Msg.Encodable, two63, maxBody_eq]; decide +kernel)

/-- The positions, evaluated. -/
example : (render .v2 (fileDemo.take 0)).length = 8 ∧ (render .v2 (fileDemo.take 1)).length = 46 ∧
    (render .v2 (fileDemo.take 2)).length = 85 ∧ (render .v2 fileDemo).length = 123 := by
  decide +kernel

/-- The undamaged file, evaluated: the three reads. -/
example : dec .v2 (render .v2 fileDemo) 8 = .ok fileDemo[0] 46 ∧
    dec .v2 (render .v2 fileDemo) 46 = .ok fileDemo[1] 85 ∧
    dec .v2 (render .v2 fileDemo) 85 = .ok fileDemo[2] 123 ∧
    dec .v2 (render .v2 fileDemo) 123 = .eof := by
  decide +kernel

/-- The key of the second record damaged (`[1,2]` → `[1,3]`, one flipped bit), evaluated: the
file keeps its length, the first and third records read back from their positions, the second
is a CRC error. -/
example :
    let f := damagedFile fileDemo 1 (by decide +kernel) ((v2Body fileDemo[1]).take 24) [1, 3]
      ((v2Body fileDemo[1]).drop 26)
    f.length = 123 ∧ dec .v2 f 8 = .ok fileDemo[0] 46 ∧ dec .v2 f 46 = .bad .crc ∧
      dec .v2 f 85 = .ok fileDemo[2] 123 := by
  decide +kernel

/-- The same file through the theorem (its hypotheses hold for this split). -/
example (j : Nat) (hj : j < fileDemo.length) :
    dec .v2 (damagedFile fileDemo 1 (by decide) ((v2Body fileDemo[1]).take 24) [1, 3]
        ((v2Body fileDemo[1]).drop 26)) (render .v2 (fileDemo.take j)).length =
      if j = 1 then .bad .crc else .ok fileDemo[j] (render .v2 (fileDemo.take (j + 1))).length :=
  (damaged_file_reads fileDemo fileDemo_encodable 1 (by decide +kernel) _ [1, 2] [1, 3] _
    (by decide +kernel) rfl (by decide +kernel) (by decide +kernel) (Or.inr (by decide +kernel)) j hj).2

/-- The stored CRC of the second record replaced by four zero bytes, evaluated. -/
example :
    let f := crcDamagedFile fileDemo 1 (by decide +kernel) [0, 0, 0, 0]
    f.length = 123 ∧ dec .v2 f 8 = .ok fileDemo[0] 46 ∧ dec .v2 f 46 = .bad .crc ∧
      dec .v2 f 85 = .ok fileDemo[2] 123 := by
  decide +kernel

/-- The file cut inside the second record, evaluated: inside its header (60 bytes), inside its
body (80 bytes), and exactly at its start (46 bytes). -/
example :
    dec .v2 ((render .v2 fileDemo).take 60) 8 = .ok fileDemo[0] 46 ∧
    dec .v2 ((render .v2 fileDemo).take 60) 46 = .bad .shortHeader ∧
    dec .v2 ((render .v2 fileDemo).take 60) 85 = .eof ∧
    dec .v2 ((render .v2 fileDemo).take 80) 8 = .ok fileDemo[0] 46 ∧
    dec .v2 ((render .v2 fileDemo).take 80) 46 = .bad .shortData ∧
    dec .v2 ((render .v2 fileDemo).take 80) 85 = .eof ∧
    dec .v2 ((render .v2 fileDemo).take 46) 8 = .ok fileDemo[0] 46 ∧
    dec .v2 ((render .v2 fileDemo).take 46) 46 = .eof := by
  decide +kernel

end Klev

#print axioms Klev.pos_eq_layout
#print axioms Klev.file_reads
#print axioms Klev.damaged_file_reads
#print axioms Klev.crc_damaged_file_reads
#print axioms Klev.truncated_file_class
#print axioms Klev.truncated_file_reads
#print axioms Klev.damaged_never_other
#print axioms Klev.damaged_never_other'
