/-
Losing unsynced data (C06): whatever tail of the head log is lost and whatever is left of
the head index file, Open with Recover succeeds, the log satisfies the invariant and holds
exactly the messages that were not lost; everything Sync acknowledged survives when the
records it covered survive.

No hypothesis on `l.opts.readonly` is needed: only `Inv.shape` and `Inv.idx` are used (they
hold for read-only and read-write logs alike).
-/
import Klev.Loss
import Klev.Proofs.CrashCore
namespace Klev.Loss
open Klev Klev.Crash

def keptLive (l : Log) (j : Nat) : List Msg :=
  (l.segs.dropLast.flatMap (·.recs)) ++ (match l.segs.getLast? with | some h => h.recs.take j | none => [])

theorem shapeOK_take_last (pre : Shape) (b : Int) (recs : List Msg) (j : Nat)
    (h : ShapeOK (pre ++ [(b, recs)])) : ShapeOK (pre ++ [(b, recs.take j)]) := by
  rw [shapeOK_snoc_iff] at h ⊢
  obtain ⟨hpre, hpw, hr, hs, hl, hb⟩ := h
  refine ⟨hpre, hpw, fun br hbr => ⟨(hr br hbr).1, (hr br hbr).2⟩, ?_, ?_, hb⟩
  · exact List.Pairwise.sublist (List.take_sublist _ _) hs
  · intro m hm; exact hl m (List.mem_of_mem_take hm)

theorem lossState_eq (l : Log) (h : Seg) (hl : l.segs.getLast? = some h) (j : Nat) (idx : Option IdxFile) :
    lossState l j idx = l.segs.dropLast.map Seg.toDisk ++ [⟨h.base, h.ver, h.recs.take j, idx⟩] := by
  unfold lossState
  rw [disk_snoc hl, mapLast_snoc]
  rfl

theorem shapeD_loss (l : Log) (h : Seg) (hl : l.segs.getLast? = some h) (j : Nat) (idx : Option IdxFile) :
    shapeD (lossState l j idx) = shape l.segs.dropLast ++ [(h.base, h.recs.take j)] := by
  rw [lossState_eq l h hl, shapeD_append]
  simp [shapeD, shape, Seg.toDisk, List.map_map, Function.comp_def]

theorem flat_shape (segs : List Seg) : (shape segs).flatMap (·.2) = segs.flatMap (·.recs) := by
  unfold shape
  rw [List.flatMap_map]

theorem abs_live_snoc {l : Log} {h : Seg} (hl : l.segs.getLast? = some h) :
    (abs l).live = l.segs.dropLast.flatMap (·.recs) ++ h.recs := by
  rw [abs_snoc hl]
  exact congrArg (· ++ h.recs) (flat_shape _)

theorem keptLive_eq {l : Log} {h : Seg} (hl : l.segs.getLast? = some h) (j : Nat) :
    keptLive l j = l.segs.dropLast.flatMap (·.recs) ++ h.recs.take j := by
  unfold keptLive; rw [hl]

theorem ackAfter_eq {l : Log} {h : Seg} (hl : l.segs.getLast? = some h) (n : Nat) :
    ackAfter l n = recsNext h.base (h.recs.take n) := by
  unfold ackAfter; rw [hl]; rfl

theorem lossState_diskOKH (l : Log) (hinv : Inv l) (j : Nat) (idx : Option IdxFile) :
    Klev.Crash.DiskOKH (lossState l j idx) ∧
    (absDisk (lossState l j idx)).live = keptLive l j ∧
    (absDisk (lossState l j idx)).next = ackAfter l j := by
  obtain ⟨h, hl⟩ := inv_getLast l hinv
  have hsd := shapeD_loss l h hl j idx
  have hok : ShapeOK (shape l.segs.dropLast ++ [(h.base, h.recs)]) := by
    rw [← shape_segs_snoc hl]; exact hinv.shape
  have hdok := diskOK_toH (disk_of_inv l hinv).1
  rw [disk_snoc hl] at hdok
  refine ⟨?_, ?_, ?_⟩
  · rw [lossState_eq l h hl] at hsd ⊢
    exact hdok.head _ (by rw [hsd]; exact shapeOK_take_last _ _ _ j hok)
  · show (shapeD (lossState l j idx)).flatMap (·.2) = keptLive l j
    rw [hsd, keptLive_eq hl, List.flatMap_append, flat_shape]
    simp
  · show shapeNext (shapeD (lossState l j idx)) = ackAfter l j
    rw [hsd, ackAfter_eq hl, shapeNext_snoc]

/-- Whatever tail of the head log is lost and whatever is left of the head index, Open with Recover
(any other options, read-write) succeeds, the log satisfies the invariant, holds exactly the messages that
were not lost, and its next offset is the one after the last surviving record. -/
theorem loss_recovers (l : Log) (hinv : Inv l) (j : Nat) (idx : Option IdxFile)
    (oo : OpenOpts) (hro : oo.opts.readonly = false) (hrec : oo.recover = true) :
    ∃ l', Log.open (lossState l j idx) oo = .ok l' ∧ Inv l' ∧
      (abs l').live = keptLive l j ∧ (abs l').next = ackAfter l j := by
  obtain ⟨hd, hlive, hnext⟩ := lossState_diskOKH l hinv j idx
  obtain ⟨l', hopen, hinv', habs'⟩ := open_recover_spec _ hd oo hrec hro
  exact ⟨l', hopen, hinv', by rw [habs']; exact hlive, by rw [habs']; exact hnext⟩

theorem keptLive_prefix (l : Log) (hinv : Inv l) (j : Nat) : keptLive l j <+: (abs l).live := by
  obtain ⟨h, hl⟩ := inv_getLast l hinv
  rw [keptLive_eq hl, abs_live_snoc hl, List.prefix_append_right_inj]
  exact List.take_prefix _ _

theorem keptLive_all (l : Log) (hinv : Inv l) (j : Nat)
    (hj : ∀ h, l.segs.getLast? = some h → h.recs.length ≤ j) : keptLive l j = (abs l).live := by
  obtain ⟨h, hl⟩ := inv_getLast l hinv
  rw [keptLive_eq hl, abs_live_snoc hl, List.take_of_length_le (hj h hl)]

theorem keptLive_append_lost (l : Log) (hinv : Inv l) (j : Nat) :
    keptLive l j ++ (match l.segs.getLast? with | some h => h.recs.drop j | none => []) = (abs l).live := by
  obtain ⟨h, hl⟩ := inv_getLast l hinv
  rw [keptLive_eq hl, abs_live_snoc hl, hl, List.append_assoc, List.take_append_drop]

theorem mem_take_of_lt_recsNext (base : Int) (recs : List Msg) (n : Nat)
    (hs : recs.Pairwise (fun a b => a.off < b.off)) (hlow : ∀ m ∈ recs, base ≤ m.off)
    (m : Msg) (hm : m ∈ recs) (hlt : m.off < recsNext base (recs.take n)) : m ∈ recs.take n := by
  rw [← List.take_append_drop n recs] at hm hs
  rcases List.mem_append.mp hm with h | h
  · exact h
  · exfalso
    have hall := (List.pairwise_append.mp hs).2.2
    unfold recsNext at hlt
    cases hg : (recs.take n).getLast? with
    | none =>
      rw [hg] at hlt
      exact Int.lt_irrefl _ (Int.lt_of_lt_of_le hlt (hlow m (List.mem_of_mem_drop h)))
    | some x =>
      rw [hg] at hlt
      simp only at hlt
      have := hall x (List.mem_of_getLast? hg) m h
      omega

theorem recsNext_take_mono (base : Int) (recs : List Msg) (n j : Nat) (hnj : n ≤ j)
    (hs : recs.Pairwise (fun a b => a.off < b.off)) (hlow : ∀ m ∈ recs, base ≤ m.off) :
    recsNext base (recs.take n) ≤ recsNext base (recs.take j) := by
  have hsj : (recs.take j).Pairwise (fun a b => a.off < b.off) :=
    List.Pairwise.sublist (List.take_sublist _ _) hs
  have hlj : ∀ m ∈ recs.take j, base ≤ m.off := fun m hm => hlow m (List.mem_of_mem_take hm)
  cases hg : (recs.take n).getLast? with
  | none =>
    have : recsNext base (recs.take n) = base := by unfold recsNext; rw [hg]
    rw [this]; exact recsNext_ge base _ hlj
  | some x =>
    have : recsNext base (recs.take n) = x.off + 1 := by unfold recsNext; rw [hg]
    rw [this]
    have hx : x ∈ recs.take j :=
      (List.take_sublist_take_left hnj).subset (List.mem_of_getLast? hg)
    exact Int.add_one_le_of_lt (recsNext_gt base _ hsj x hx)

theorem head_segShapeOK (l : Log) (hinv : Inv l) (h : Seg) (hl : l.segs.getLast? = some h) :
    h.recs.Pairwise (fun a b => a.off < b.off) ∧ ∀ m ∈ h.recs, h.base ≤ m.off := by
  have hmem : (h.base, h.recs) ∈ shape l.segs := by rw [shape_segs_snoc hl]; simp
  exact ⟨hinv.shape.sorted _ hmem, hinv.shape.lower _ hmem⟩

theorem ackAfter_mono (l : Log) (hinv : Inv l) (n j : Nat) (hnj : n ≤ j) : ackAfter l n ≤ ackAfter l j := by
  obtain ⟨h, hl⟩ := inv_getLast l hinv
  obtain ⟨hs, hlow⟩ := head_segShapeOK l hinv h hl
  rw [ackAfter_eq hl, ackAfter_eq hl]
  exact recsNext_take_mono _ _ _ _ hnj hs hlow

theorem ackAfter_all (l : Log) (hinv : Inv l) (n : Nat)
    (hn : ∀ h, l.segs.getLast? = some h → h.recs.length ≤ n) : ackAfter l n = (abs l).next := by
  obtain ⟨h, hl⟩ := inv_getLast l hinv
  rw [ackAfter_eq hl, List.take_of_length_le (hn h hl), abs_snoc hl]

theorem live_lt_ack_kept (l : Log) (hinv : Inv l) (n j : Nat) (hnj : n ≤ j) (m : Msg)
    (hm : m ∈ (abs l).live) (hlt : m.off < ackAfter l n) : m ∈ keptLive l j := by
  obtain ⟨h, hl⟩ := inv_getLast l hinv
  obtain ⟨hs, hlow⟩ := head_segShapeOK l hinv h hl
  rw [abs_live_snoc hl] at hm
  rw [keptLive_eq hl]
  rw [ackAfter_eq hl] at hlt
  rcases List.mem_append.mp hm with h1 | h1
  · exact List.mem_append_left _ h1
  · apply List.mem_append_right
    exact (List.take_sublist_take_left hnj).subset
      (mem_take_of_lt_recsNext h.base h.recs n hs hlow m h1 hlt)

/-- If Sync acknowledged when the head held n records and at least those n survive (n ≤ j),
then every live message below the acknowledged offset survives and NextOffset is not below it. -/
theorem synced_survive (l : Log) (hinv : Inv l) (n j : Nat) (hnj : n ≤ j) (idx : Option IdxFile)
    (oo : OpenOpts) (hro : oo.opts.readonly = false) (hrec : oo.recover = true) :
    ∃ l', Log.open (lossState l j idx) oo = .ok l' ∧ Inv l' ∧
      (∀ m ∈ (abs l).live, m.off < ackAfter l n → m ∈ (abs l').live) ∧
      ackAfter l n ≤ (abs l').next ∧
      (abs l').live <+: (abs l).live := by
  obtain ⟨l', hopen, hinv', hlive, hnext⟩ := loss_recovers l hinv j idx oo hro hrec
  refine ⟨l', hopen, hinv', ?_, ?_, ?_⟩
  · intro m hm hlt
    rw [hlive]; exact live_lt_ack_kept l hinv n j hnj m hm hlt
  · rw [hnext]; exact ackAfter_mono l hinv n j hnj
  · rw [hlive]; exact keptLive_prefix l hinv j

/-- nothing lost from the head log (only the index file): the recovered log has the same content -/
theorem index_loss_only (l : Log) (hinv : Inv l) (j : Nat)
    (hj : ∀ h, l.segs.getLast? = some h → h.recs.length ≤ j) (idx : Option IdxFile)
    (oo : OpenOpts) (hro : oo.opts.readonly = false) (hrec : oo.recover = true) :
    ∃ l', Log.open (lossState l j idx) oo = .ok l' ∧ Inv l' ∧ abs l' = abs l := by
  obtain ⟨l', hopen, hinv', hlive, hnext⟩ := loss_recovers l hinv j idx oo hro hrec
  refine ⟨l', hopen, hinv', ?_⟩
  have h1 : (abs l').live = (abs l).live := by rw [hlive]; exact keptLive_all l hinv j hj
  have h2 : (abs l').next = (abs l).next := by rw [hnext]; exact ackAfter_all l hinv j hj
  show (⟨(abs l').live, (abs l').next⟩ : Spec) = abs l
  rw [h1, h2]

/-- Two batches with a rollover in between: segments `0: [0, 1]` and `2: [2, 3, 4]`. -/
def exL : Log := (cx2L1.publish [(12, [], [3]), (13, [], [4]), (14, [], [5])]).1

theorem exL_inv : Inv exL := (publish_step cx2L1 cx2L1_inv _).1

theorem exL_shape : (shape exL.segs).map (fun br => (br.1, br.2.map (·.off))) = [(0, [0, 1]), (2, [2, 3, 4])] := by
  decide +kernel

/-- content (offsets of the live messages, next offset) of what Open makes of a directory -/
def openContent (d : List SegDisk) (oo : OpenOpts) : Option (List Int × Int) :=
  match Log.open d oo with
  | .ok l' => some ((abs l').live.map (·.off), (abs l').next)
  | .err _ => none

/-- the offsets acknowledged by a Sync at 0, 1, 2, 3 records in the head -/
example : (List.range 4).map (ackAfter exL) = [2, 3, 4, 5] := by decide +kernel

/-- the head log keeps one of its three records, the head index file is gone -/
example : openContent (lossState exL 1 none) cx2RecoverOpts = some ([0, 1, 2], 3) := by decide +kernel

/-- … the head index file is a bare V2 header -/
example : openContent (lossState exL 1 (some ⟨.v2, []⟩)) cx2RecoverOpts = some ([0, 1, 2], 3) := by decide +kernel

/-- … the head index file still names all three records (items past the end of the log) -/
example : openContent (lossState exL 1 (exL.disk.getLast?.bind (·.idxf))) cx2RecoverOpts = some ([0, 1, 2], 3) ∧
    (exL.disk.getLast?.bind (·.idxf)).map (·.items.length) = some 3 := by decide +kernel

/-- … the whole head log is lost -/
example : openContent (lossState exL 0 none) cx2RecoverOpts = some ([0, 1], 2) := by decide +kernel

/-- nothing is lost but the index: the content is that of the log -/
example : openContent (lossState exL 3 none) cx2RecoverOpts = some ((abs exL).live.map (·.off), (abs exL).next) ∧
    (abs exL).next = 5 := by decide +kernel

/-- the instances of the theorems, with the recovered content computed -/
theorem ex_loss_recovers (idx : Option IdxFile) :
    ∃ l', Log.open (lossState exL 1 idx) cx2RecoverOpts = .ok l' ∧ Inv l' ∧
      (abs l').live.map (·.off) = [0, 1, 2] ∧ (abs l').next = 3 := by
  obtain ⟨l', h, hinv, hlive, hnext⟩ := loss_recovers exL exL_inv 1 idx cx2RecoverOpts (by decide +kernel) (by decide +kernel)
  refine ⟨l', h, hinv, ?_, ?_⟩
  · rw [hlive]; decide +kernel
  · rw [hnext]; decide +kernel

/-- Sync acknowledged offset 3 (one record in the head); the crash keeps two records: the
messages 0, 1, 2 survive and NextOffset ≥ 3. -/
theorem ex_synced_survive (idx : Option IdxFile) :
    ∃ l', Log.open (lossState exL 2 idx) cx2RecoverOpts = .ok l' ∧ Inv l' ∧
      (∀ m ∈ (abs exL).live, m.off < 3 → m ∈ (abs l').live) ∧ 3 ≤ (abs l').next := by
  obtain ⟨l', h, hinv, hsurv, hnext, _⟩ :=
    synced_survive exL exL_inv 1 2 (by decide +kernel) idx cx2RecoverOpts (by decide +kernel) (by decide +kernel)
  have hack : ackAfter exL 1 = 3 := by decide +kernel
  rw [hack] at hsurv hnext
  exact ⟨l', h, hinv, hsurv, hnext⟩

end Klev.Loss

#print axioms Klev.Loss.shapeOK_take_last
#print axioms Klev.Loss.lossState_diskOKH
#print axioms Klev.Loss.loss_recovers
#print axioms Klev.Loss.keptLive_prefix
#print axioms Klev.Loss.keptLive_all
#print axioms Klev.Loss.keptLive_append_lost
#print axioms Klev.Loss.ackAfter_mono
#print axioms Klev.Loss.ackAfter_all
#print axioms Klev.Loss.synced_survive
#print axioms Klev.Loss.index_loss_only
#print axioms Klev.Loss.ex_loss_recovers
#print axioms Klev.Loss.ex_synced_survive
