/-
A generic step theorem for "every index of every segment satisfies `P`" (`SegsP P`),
instantiated in `ExtRun.lean` with `KeysFor` (→ `KeysInv`) and `TimesFor` (→ `TimesInv`).

`P recs items` must hold of the empty index, be compatible with appending a stamped
batch, and hold of every index the rebuild paths (`derive`: missing index file, rewrite,
migrate, recover) produce for the records of a segment or a sublist of them (`SegDer`).
-/
import Klev.Proofs.ExtSteps
import Klev.Proofs.GetOK
namespace Klev

/-- `P` holds of every index (loaded, file) of every segment. `KeysInv` and `TimesInv` are
instances (by definition). -/
def SegsP (P : List Msg → List Item → Prop) (l : Log) : Prop := ∀ s ∈ l.segs, SegP P s

/-- Every rebuilt index over (a sublist of) these records satisfies `P`. -/
def SegDer (P : List Msg → List Item → Prop) (p : Params) (recs : List Msg) : Prop :=
  ∀ v sub, sub.Sublist recs → P sub (derive p v sub)

/-- The index configuration a reopen uses is the one the log was created with. -/
def OpParams (p : Params) : Op → Prop
  | .reopen _ _ _ oo => oo.opts.params = p
  | _ => True

/-- The index configuration never changes along the history. -/
def SameParams (p : Params) : List Op → Prop
  | [] => True
  | op :: rest => OpParams p op ∧ SameParams p rest

theorem open_opts (d : List SegDisk) (oo : OpenOpts) (l' : Log) (h : Log.open d oo = .ok l') :
    l'.opts = oo.opts := by
  rcases open_ok h with ⟨_, rfl⟩ | ⟨_, _, _, _, rfl⟩ <;> rfl

theorem step_params (l : Log) (op : Op) (hpar : OpParams l.opts.params op) :
    (stepOp l op).opts.params = l.opts.params := by
  cases op with
  | publish b => exact congrArg Opts.params (publish_opts l b)
  | delete o => exact congrArg Opts.params (delete_opts l o)
  | consume off mc => exact congrArg Opts.params (consume_loads l off mc).opts
  | get off => exact congrArg Opts.params (get_loads l off).opts
  | gc => rfl
  | reopen rm mig rec oo =>
    simp only [stepOp]
    cases ho : Log.open (closedDisk l rm mig rec) oo with
    | err e => rfl
    | ok l' =>
      dsimp only
      rw [open_opts _ _ _ ho]
      exact hpar

theorem run_params (l : Log) (ops : List Op) (hsame : SameParams l.opts.params ops) :
    (runOps l ops).opts.params = l.opts.params := by
  induction ops generalizing l with
  | nil => rfl
  | cons op rest ih =>
    obtain ⟨h1, h2⟩ := hsame
    have hs := step_params l op h1
    simp only [runOps]
    rw [ih (stepOp l op) (by rw [hs]; exact h2), hs]

theorem openWriter_segP (P : List Msg → List Item → Prop) (hnil : P [] []) (o : Opts) (s : Seg)
    (nt : Int) (hidx : ∀ f, s.idxf = some f → P s.recs f.items)
    (hder : P s.recs (derive o.params s.ver s.recs)) :
    SegP P (openWriter o s nt).1 := by
  obtain ⟨v, its, f, hr, hc⟩ := openWriter_out o s nt
  have hP : P s.recs its ∧ P s.recs f.items := by
    rcases hc with ⟨hre, _, hi, hf⟩ | ⟨_, _, hfi, hf⟩
    · rw [hi]
      refine ⟨by rw [hre]; exact hnil, ?_⟩
      rcases hf with hf | hf
      · rw [hf, hre]; exact hnil
      · exact hidx f hf
    · rw [hfi]
      have : P s.recs its := by
        rcases hf with ⟨hf, _⟩ | ⟨_, hf⟩
        · rw [← hfi]; exact hidx f hf
        · rw [← hfi, hf]; exact hder
      exact ⟨this, this⟩
  rw [hr]
  exact ⟨fun its' hi => by rw [← Option.some.inj hi]; exact hP.1,
    fun f' hf' => by rw [← Option.some.inj hf']; exact hP.2⟩

theorem segP_fresh (P : List Msg → List Item → Prop) (hnil : P [] []) (o : Opts) (b : Int) :
    SegP P (freshSeg o b) := by
  refine ⟨?_, ?_⟩
  · intro its hi; simp only [freshSeg, Option.some.injEq] at hi; subst hi; exact hnil
  · intro f hf; simp only [freshSeg, Option.some.injEq] at hf; subst hf; exact hnil

theorem segP_appendHead {P : List Msg → List Item → Prop}
    (happ : ∀ r1 i1 r2 i2, P r1 i1 → P r2 i2 → P (r1 ++ r2) (i1 ++ i2)) {h : Seg}
    {st : List Msg × List Item} (hh : SegP P h) (hst : P st.1 st.2) : SegP P (appendHead h st) := by
  refine ⟨fun its hi => ?_, fun f hf => ?_⟩
  · obtain ⟨its0, hm, rfl⟩ := Option.map_eq_some_iff.mp hi
    exact happ _ _ _ _ (hh.1 its0 hm) hst
  · obtain ⟨f0, hx, rfl⟩ := Option.map_eq_some_iff.mp hf
    exact happ _ _ _ _ (hh.2 f0 hx) hst

theorem Loads.segsP (P : List Msg → List Item → Prop) {l l' : Log} (h : Loads l l')
    (hP : SegsP P l) (hder : ∀ s ∈ l.segs, SegDer P l.opts.params s.recs) : SegsP P l' :=
  h.segP P hP fun s hs => hder s hs s.ver s.recs (List.Sublist.refl _)

/-- What a segment's file carries through a close. -/
def DiskP (P : List Msg → List Item → Prop) (p : Params) (sd : SegDisk) : Prop :=
  (∀ f, sd.idxf = some f → P sd.recs f.items) ∧ SegDer P p sd.recs

theorem DiskP.migrate {P : List Msg → List Item → Prop} {p : Params} {sd : SegDisk}
    (h : DiskP P p sd) (v : Ver) : DiskP P p (segMigrate p v v sd) := by
  unfold segMigrate
  split
  · exact h
  · refine ⟨fun f hf => ?_, h.2⟩
    rw [← Option.some.inj hf]
    exact h.2 _ _ (List.Sublist.refl _)

theorem DiskP.recover {P : List Msg → List Item → Prop} {p : Params} {sd : SegDisk}
    (h : DiskP P p sd) : DiskP P p (segRecover p sd) := by
  unfold segRecover
  split
  · exact h
  · split
    · exact h
    · refine ⟨fun f hf => ?_, h.2⟩
      rw [← Option.some.inj hf]
      exact h.2 _ _ (List.Sublist.refl _)

theorem segsP_step (P : List Msg → List Item → Prop) (hnil : P [] [])
    (happ : ∀ r1 i1 r2 i2, P r1 i1 → P r2 i2 → P (r1 ++ r2) (i1 ++ i2))
    (l : Log) (hinv : Inv l) (hP : SegsP P l)
    (hder : ∀ s ∈ l.segs, SegDer P l.opts.params s.recs) (op : Op)
    (hpar : OpParams l.opts.params op)
    (hst : ∀ b, op = .publish b → l.opts.readonly = false → ∀ v pos,
      P (stamp l.opts.params v l.wNextOff pos l.wNextTime b).1
        (stamp l.opts.params v l.wNextOff pos l.wNextTime b).2) :
    SegsP P (stepOp l op) := by
  cases op with
  | publish b =>
    exact publish_forall (SegP P) l b hP (segP_fresh P hnil _ _) fun hro h _ hh =>
      segP_appendHead happ hh (hst b rfl hro h.ver (logSize h.ver h.recs))
  | delete o =>
    refine delete_forall (SegP P) l o hP (segP_fresh P hnil _ _) fun s hs mv _ => ?_
    -- the rewritten segment has no loaded index and a rebuilt index file
    have hd := hder s hs mv (rewrite l.opts.params s o mv mv).survive List.filter_sublist
    have h1 : SegP P (rewrittenSeg l.opts.params (rewrite l.opts.params s o mv mv)) :=
      ⟨fun its hi => (nomatch hi), fun f hf => by rw [← Option.some.inj hf]; exact hd⟩
    exact ⟨h1, openWriter_segP P hnil l.opts _ l.wNextTime h1.2 hd⟩
  | consume off mc => exact (consume_loads l off mc).segsP P hP hder
  | get off => exact (get_loads l off).segsP P hP hder
  | gc => exact gc_forall (SegP P) l (fun s h => ⟨fun its hi => (nomatch hi), h.2⟩) hP
  | reopen rm mig rec oo =>
    have hpar' : oo.opts.params = l.opts.params := hpar
    have hp : ∀ p, p = l.opts.params ∨ p = oo.opts.params → p = l.opts.params :=
      fun p h => h.elim id (fun h => h.trans hpar')
    refine reopen_forall (DiskP P l.opts.params) (SegP P) l hinv rm mig rec oo hP
      (fun s hs => ⟨(hP s hs).2, hder s hs⟩) (fun sd h => ⟨fun f hf => (nomatch hf), h.2⟩)
      (fun p h v sd hd => by rw [hp p h]; exact hd.migrate v)
      (fun p h sd hd => by rw [hp p h]; exact hd.recover)
      (fun sd h => ⟨fun its hi => (nomatch hi), h.1⟩) fun sd h => ?_
    refine openWriter_segP P hnil oo.opts sd.toSeg 0 h.1 ?_
    rw [hpar']
    exact h.2 _ _ (List.Sublist.refl _)

theorem segsP_open_empty (P : List Msg → List Item → Prop) (hnil : P [] []) (oo : OpenOpts)
    (l0 : Log) (h : Log.open [] oo = .ok l0) : SegsP P l0 := by
  intro s hs
  rw [open_nil h] at hs
  rw [List.mem_singleton.mp hs]
  cases oo.opts.readonly with
  | true => exact ⟨fun its hi => by rw [← Option.some.inj hi]; exact hnil, fun f hf => (nomatch hf)⟩
  | false => exact segP_fresh P hnil _ _

end Klev
