/-
Why the publish hypothesis of the time lookups (`PubTimesOK`, `PubMono`) has to mention the
writer's `nextTime`: the counterexample `cx_getByTime`.
-/
import Klev.Proofs.ExtReads
namespace Klev

/-! ### the publish hypothesis cannot be weakened to the live messages

Time index on. Publish one message with time 10, delete it (the head is emptied; the
writer's `nextTime` stays 10), publish one message with time 7. At the third step the
batch is sorted, non-negative and at or after every live time (there is none), and the
content stays `Monotone` — yet the stamped index timestamp is `max 7 10 = 10`, `TimesInv`
fails and `GetByTime 8` answers with the message of time 7 where the specification says
"not found". `PubTimesOK` excludes the history (7 < `wNextTime` = 10), as does `PubMono`. -/

def cxOpen : OpenOpts := ⟨⟨false, ⟨true, false⟩, false, 1000, .v2, false⟩, false, false, false⟩

def cxOps : List Op := [.publish [(10, [], [])], .delete [0], .publish [(7, [], [])]]

def cxStart : Log :=
  match Log.open [] cxOpen with
  | .ok l => l
  | .err _ => default

theorem cx_start : Log.open [] cxOpen = .ok cxStart := by decide +kernel

/-- Before the last publish: nothing is live, the writer still remembers time 10. -/
theorem cx_before : (abs (runOps cxStart (cxOps.take 2))).live = [] ∧
    (runOps cxStart (cxOps.take 2)).wNextTime = 10 := by decide +kernel

theorem cx_monotone : Spec.Monotone (abs (runOps cxStart cxOps)) := by decide +kernel

/-- The head's record has time 7, its index item timestamp 10. -/
theorem cx_index : (runOps cxStart cxOps).segs.map
    (fun s => (s.recs.map (·.time), s.mem.map (·.map (·.ts)))) = [([7], some [10])] := by decide +kernel

theorem cx_not_timesInv : ¬ TimesInv (runOps cxStart cxOps) := by
  intro h
  have hseg : ∃ s, s ∈ (runOps cxStart cxOps).segs ∧ s.recs.map (·.time) = [7] ∧
      s.mem.map (·.map (·.ts)) = some [10] := by decide +kernel
  obtain ⟨s, hs, h1, h2⟩ := hseg
  cases hm : s.mem with
  | none => rw [hm] at h2; simp at h2
  | some its =>
    rw [hm] at h2
    simp only [Option.map_some, Option.some.injEq] at h2
    have := (h s hs).1 its hm
    unfold TimesFor at this
    rw [h1, h2] at this
    exact absurd this (by decide)

theorem cx_getByTime : ¬ Spec.GetByTimeOK true (abs (runOps cxStart cxOps)) 8
    ((runOps cxStart cxOps).getByTime 8).2 := by decide +kernel

end Klev

#print axioms Klev.firstAtBase_step
#print axioms Klev.firstAtBase_open_empty
#print axioms Klev.firstAtBase_run
#print axioms Klev.segsP_step
#print axioms Klev.step_params
#print axioms Klev.run_params
#print axioms Klev.keysInv_step
#print axioms Klev.keysInv'_step
#print axioms Klev.keysInv_open_empty
#print axioms Klev.keysInv_run
#print axioms Klev.keysInv'_run
#print axioms Klev.getByKey_ok_run
#print axioms Klev.consumeByKey_ok_run
#print axioms Klev.monotone_step
#print axioms Klev.timesInv_step
#print axioms Klev.timesInv_open_empty
#print axioms Klev.times_run
#print axioms Klev.getByTime_ok_run
#print axioms Klev.timeCarry_step
#print axioms Klev.timesOKRun_of_pubMono
#print axioms Klev.getByTime_ok_mono
#print axioms Klev.Good.loads
#print axioms Klev.Good.step
#print axioms Klev.Good.lookups
#print axioms Klev.good_runX
#print axioms Klev.lookups_ok_runX
#print axioms Klev.lookups_ok_monoX
#print axioms Klev.cx_not_timesInv
#print axioms Klev.cx_getByTime
