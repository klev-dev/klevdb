/-
The client-side helpers (`Find*`) are loops of `Consume` from `OffsetOldest`: a Hoare rule for
`Helpers.scanLoop`, its form for loops that fold the messages up to the first one failing a
test, and against the L0 relations `FindByOffset` and (the prefix part of) `FindByAge`.
-/
import Klev.Proofs.HelpersBase
import Klev.Proofs.TimeOK
import Klev.Proofs.Open
namespace Klev

open Helpers

/-- A loop invariant for `Helpers.scanLoop` over the messages `F`: `I seen st` relates the state
to the part `seen` of `F` fed so far (in chunks `ms`, whatever their length), and `Q` follows at
each of the three exits: `break` (from `step`), `cont` failing, and the cursor reaching `maxOff`
(then every message not yet seen is at or above `maxOff`). -/
structure ScanInv {σ : Type} (maxOff : Int) (cont : σ → Bool) (step : σ → List Msg → σ × Bool)
    (F : List Msg) (I : List Msg → σ → Prop) (Q : σ → Prop) : Prop where
  step : ∀ seen ms rest st, seen ++ ms ++ rest = F → I seen st → cont st = true →
    ((step st ms).2 = false → I (seen ++ ms) (step st ms).1) ∧
    ((step st ms).2 = true → Q (step st ms).1)
  stop : ∀ seen rest st, seen ++ rest = F → I seen st → cont st = false → Q st
  max : ∀ seen rest st, seen ++ rest = F → I seen st → (∀ m ∈ rest, maxOff ≤ m.off) → Q st

/-- Hoare rule for `Helpers.scanLoop`; `F` is what the starting cursor has to see. -/
theorem scanLoop_rule {σ : Type} {maxOff : Int} {cont : σ → Bool} {step : σ → List Msg → σ × Bool}
    {F : List Msg} {I : List Msg → σ → Prop} {Q : σ → Prop} (hinv : ScanInv maxOff cont step F I Q) :
    ∀ (fuel : Nat) (l : Log) (off : Int) (st : σ) (seen : List Msg), Inv l →
      off ≤ (abs l).next → off ≠ offsetNewest →
      seen ++ Spec.fromOff (abs l) off = F → I seen st →
      ∃ l', Loaded l l' ∧
        ((∃ st', scanLoop maxOff cont step fuel l off st = (l', .ok st') ∧ Q st') ∨
         (scanLoop maxOff cont step fuel l off st = (l', .err .panic) ∧
           (fuel < (maxOff - off).toNat + 1 ∨ (abs l).next < maxOff))) := by
  intro fuel
  induction fuel with
  | zero =>
    intro l off st seen h _ _ _ _
    exact ⟨l, Loaded.refl h, Or.inr ⟨rfl, Or.inl (Nat.succ_pos _)⟩⟩
  | succ fuel ih =>
    intro l off st seen h hle hn hF hI
    unfold scanLoop
    by_cases hc : off < maxOff ∧ cont st = true
    · rw [if_pos hc]
      obtain ⟨nxt, ms, l1, hcons, hld, hsplit, hnn, hnle, hpos, hemp⟩ :=
        consume_chunk l h off 32 (by decide) hle hn
      have habs1 := hld.abs
      rw [hcons]
      dsimp only
      have hF' : seen ++ ms ++ Spec.fromOff (abs l) nxt = F := by
        rw [List.append_assoc, ← hsplit, hF]
      obtain ⟨hs1, hs2⟩ := hinv.step seen ms _ st hF' hI hc.2
      cases hbrk : (step st ms).2 with
      | true =>
        refine ⟨l1, hld, Or.inl ⟨(step st ms).1, ?_, hs2 hbrk⟩⟩
        rw [if_pos rfl]
      | false =>
        obtain ⟨l', hld', hres⟩ := ih l1 nxt (step st ms).1 (seen ++ ms) hld.inv (by rw [habs1]; exact hnle)
          (ne_offsetNewest_of_nonneg hnn) (by rw [habs1]; exact hF') (hs1 hbrk)
        refine ⟨l', hld.trans hld', ?_⟩
        rw [if_neg Bool.false_ne_true]
        rcases hres with hok | ⟨hp, hfu⟩
        · exact Or.inl hok
        · -- the cursor moved forward: an empty chunk ends at `next`, here at or above `maxOff`
          refine Or.inr ⟨hp, ?_⟩
          rw [habs1] at hfu
          by_cases hnm : (abs l).next < maxOff
          · exact Or.inr hnm
          · have hadv : off < nxt := by
              by_cases hms : ms = []
              · rw [(hemp hms).1]; exact Int.lt_of_lt_of_le hc.1 (Int.not_lt.mp hnm)
              · exact hpos hms
            have hd : 0 < maxOff - off := Int.sub_pos.mpr hc.1
            have hlt : maxOff - nxt < maxOff - off := Int.sub_lt_sub_left hadv maxOff
            have hdec : (maxOff - nxt).toNat < (maxOff - off).toNat := (Int.toNat_lt_toNat hd).mpr hlt
            refine hfu.imp_left fun hfu => Nat.succ_lt_succ ?_
            exact Nat.lt_of_le_of_lt (Nat.le_of_lt_succ hfu) hdec
    · rw [if_neg hc]
      refine ⟨l, Loaded.refl h, Or.inl ⟨st, rfl, ?_⟩⟩
      by_cases hct : cont st = true
      · apply hinv.max seen _ st hF hI
        intro m hm
        exact Int.le_trans (Int.not_lt.mp fun h => hc ⟨h, hct⟩) (Spec.mem_fromOff.mp hm).2
      · exact hinv.stop seen _ st hF hI (Bool.eq_false_iff.mpr hct)

/-- The call every `Find*` makes: from `OffsetOldest`, with fuel `fuelFor maxOff`, which is
enough unless `maxOff ≤ -4`. -/
theorem scanLoop_oldest {σ : Type} {maxOff : Int} {cont : σ → Bool} {step : σ → List Msg → σ × Bool}
    {I : List Msg → σ → Prop} {Q : σ → Prop} (l : Log) (h : Inv l)
    (hinv : ScanInv maxOff cont step (abs l).live I Q) (st0 : σ) (h0 : I [] st0) :
    ∃ l', Loaded l l' ∧
      ((∃ st', scanLoop maxOff cont step (fuelFor maxOff) l offsetOldest st0 = (l', .ok st') ∧ Q st') ∨
       (scanLoop maxOff cont step (fuelFor maxOff) l offsetOldest st0 = (l', .err .panic) ∧
         (maxOff ≤ -4 ∨ (abs l).next < maxOff))) := by
  have hnn := abs_next_nonneg l h
  obtain ⟨l', hld, hres⟩ := scanLoop_rule hinv (fuelFor maxOff) l offsetOldest st0 [] h
    (by unfold offsetOldest; omega) (by decide)
    (by rw [List.nil_append]; exact Spec.fromOff_nonpos (abs_wf l h) (by decide)) h0
  refine ⟨l', hld, hres.imp id fun hp => ⟨hp.1, hp.2.imp_left fun hf => ?_⟩⟩
  rw [fuelFor, offsetOldest, Nat.lt_succ_iff, Int.toNat_le] at hf
  omega

/-- The panic clause of `scanLoop_oldest` is void for a bound in `-3 … next`. -/
theorem no_panic {maxOff next : Int} (hlo : -4 < maxOff) (hle : maxOff ≤ next) :
    ¬ (maxOff ≤ -4 ∨ next < maxOff) :=
  fun h => h.elim (Int.not_le.mpr hlo) (Int.not_lt.mpr hle)

theorem scanLoop_find {σ : Type} {maxOff : Int} {cont : σ → Bool} {step : σ → List Msg → σ × Bool}
    {I : List Msg → σ → Prop} {Q : σ → Prop} (l : Log) (h : Inv l) (hlo : -4 < maxOff)
    (hle : maxOff ≤ (abs l).next) (hinv : ScanInv maxOff cont step (abs l).live I Q) (st0 : σ)
    (h0 : I [] st0) :
    ∃ l' st', scanLoop maxOff cont step (fuelFor maxOff) l offsetOldest st0 = (l', .ok st') ∧
      Loaded l l' ∧ Q st' := by
  obtain ⟨l', hld, ⟨st', hr, hq⟩ | ⟨_, hbad⟩⟩ := scanLoop_oldest l h hinv st0 h0
  · exact ⟨l', st', hr, hld, hq⟩
  · exact absurd hbad (no_panic hlo hle)

/-- The step shared by `FindByAge`, `FindUpdates`, `FindDeletes`: `g` folds the messages
taken into the state. -/
def twStep {τ : Type} (p : Msg → Bool) (g : τ → List Msg → τ) (st : τ) (msgs : List Msg) : τ × Bool :=
  (g st (msgs.takeWhile p), decide ((msgs.takeWhile p).length < msgs.length))

/-- `FindByAge` takes its `maxOff` from `GetByTime`, so the loop may leave a part `R` of the
messages that satisfy `p`; for `maxOff = next` there is none. -/
theorem scanLoop_takeWhile {τ : Type} (maxOff : Int) (p : Msg → Bool) (g : τ → List Msg → τ)
    (hg : ∀ st a b, g (g st a) b = g st (a ++ b)) (hg0 : ∀ st, g st [] = st)
    (l : Log) (h : Inv l) (st0 : τ) :
    ∃ l', Loaded l l' ∧
      ((∃ S R, S ++ R = (abs l).live.takeWhile p ∧
          scanLoop maxOff (fun _ => true) (twStep p g) (fuelFor maxOff) l offsetOldest st0 =
            (l', .ok (g st0 S)) ∧ ∀ m ∈ R, maxOff ≤ m.off) ∨
       (scanLoop maxOff (fun _ => true) (twStep p g) (fuelFor maxOff) l offsetOldest st0 =
            (l', .err .panic) ∧ (maxOff ≤ -4 ∨ (abs l).next < maxOff))) := by
  have hsi : ScanInv maxOff (fun _ => true) (twStep p g) (abs l).live
      (fun seen st => st = g st0 seen ∧ ∀ m ∈ seen, p m = true)
      (fun st' => ∃ S R, S ++ R = (abs l).live.takeWhile p ∧ st' = g st0 S ∧
        ∀ m ∈ R, maxOff ≤ m.off) := by
    refine ⟨?_, fun _ _ _ _ _ hc => (nomatch hc), ?_⟩
    · rintro seen ms rest st hF ⟨hst, hp⟩ _
      unfold twStep
      simp only [decide_eq_false_iff_not, decide_eq_true_eq, takeWhile_length_lt_iff]
      constructor
      · intro hall
        have hall' : ∀ a ∈ ms, p a = true := fun a ha => by
          cases hpa : p a with
          | true => rfl
          | false => exact absurd ⟨a, ha, hpa⟩ hall
        rw [takeWhile_all p ms hall', hst, hg]
        exact ⟨rfl, fun m hm => (List.mem_append.mp hm).elim (hp m) (hall' m)⟩
      · intro hneg
        refine ⟨seen ++ ms.takeWhile p, [], ?_, by rw [hst, hg], fun _ hm => nomatch hm⟩
        rw [List.append_nil, ← hF, List.append_assoc, List.takeWhile_append_of_pos hp,
          takeWhile_append_of_neg p ms rest hneg]
    · rintro seen rest st hF ⟨hst, hp⟩ hge
      exact ⟨seen, rest.takeWhile p, by rw [← hF, List.takeWhile_append_of_pos hp], hst,
        fun m hm => hge m (List.takeWhile_subset p hm)⟩
  obtain ⟨l', hld, ⟨st', hr, S, R, hSR, hst, hge⟩ | hbad⟩ :=
    scanLoop_oldest l h hsi st0 ⟨(hg0 st0).symm, fun _ hm => nomatch hm⟩
  · exact ⟨l', hld, Or.inl ⟨S, R, hSR, by rw [hr, hst], hge⟩⟩
  · exact ⟨l', hld, Or.inr hbad⟩

/-- `maxOff = next` and a per-message fold: `FindUpdates`, `FindDeletes`. -/
theorem scanLoop_foldl_next {τ : Type} (p : Msg → Bool) (f : τ → Msg → τ) (l : Log) (h : Inv l)
    (st0 : τ) :
    ∃ l', Loaded l l' ∧
      scanLoop (abs l).next (fun _ => true) (twStep p (fun st xs => xs.foldl f st))
        (fuelFor (abs l).next) l offsetOldest st0 =
        (l', .ok (((abs l).live.takeWhile p).foldl f st0)) := by
  have hnn := abs_next_nonneg l h
  obtain ⟨l', hld, hres⟩ := scanLoop_takeWhile (abs l).next p (fun st xs => xs.foldl f st)
    (fun st a b => (List.foldl_append ..).symm) (fun _ => rfl) l h st0
  refine ⟨l', hld, ?_⟩
  rcases hres with ⟨S, R, hSR, hr, hge⟩ | ⟨_, hbad⟩
  · obtain rfl : R = [] := List.eq_nil_iff_forall_not_mem.mpr fun m hm => Int.not_lt.mpr (hge m hm)
      ((abs_wf l h).2 m (List.takeWhile_subset p (hSR ▸ List.mem_append_right S hm))).2
    rw [hr, ← hSR, List.append_nil]
  · exact absurd hbad (no_panic (by omega) (Int.le_refl _))

/-- The loop of `FindByOffset`; from `min b next` on no live message is below `b`. -/
theorem scanLoop_below (l : Log) (h : Inv l) (b maxOff : Int) (hlo : -4 < maxOff)
    (hle : maxOff ≤ (abs l).next) (hb : min b (abs l).next ≤ maxOff) :
    ∃ l', Loaded l l' ∧
      scanLoop maxOff (fun _ => true)
        (fun acc msgs => (acc ++ ((msgs.takeWhile (fun m => decide (m.off < b))).map (·.off)), false))
        (fuelFor maxOff) l offsetOldest [] =
        (l', .ok (Spec.offsOf ((abs l).live.filter (fun m => decide (m.off < b))))) := by
  have hwf := abs_wf l h
  have hsi : ScanInv maxOff (fun _ => true)
      (fun acc msgs =>
        (acc ++ ((msgs.takeWhile (fun m => decide (m.off < b))).map (·.off)), false))
      (abs l).live
      (fun seen acc => acc = Spec.offsOf (seen.filter (fun m => decide (m.off < b))))
      (fun acc => acc = Spec.offsOf ((abs l).live.filter (fun m => decide (m.off < b)))) := by
    refine ⟨?_, fun _ _ _ _ _ hc => (nomatch hc), ?_⟩
    · -- within a chunk, as everywhere, offsets increase: taking while below `b` is filtering
      intro seen ms rest acc hF hI _
      refine ⟨fun _ => ?_, fun hc => nomatch hc⟩
      have hpw : (seen ++ ms ++ rest).Pairwise (fun x y => x.off < y.off) := hF ▸ hwf.1
      have hms := (List.pairwise_append.mp (List.pairwise_append.mp hpw).1).2.1
      dsimp only
      rw [takeWhile_eq_filter _ ms (hms.imp fun hxy hy =>
        decide_eq_true (Int.lt_trans hxy (of_decide_eq_true hy))), hI, List.filter_append]
      exact (List.map_append ..).symm
    · intro seen rest acc hF hI hge
      have hr : rest.filter (fun m => decide (m.off < b)) = [] := by
        rw [List.filter_eq_nil_iff]
        intro m hm'
        have hmin := Int.le_trans hb (hge m hm')
        have hnx := (hwf.2 m (by rw [← hF]; exact List.mem_append_right _ hm')).2
        rw [decide_eq_true_eq]
        exact fun hlt => Int.not_lt.mpr hmin (Int.lt_min.mpr ⟨hlt, hnx⟩)
      rw [hI, ← hF, List.filter_append, hr, List.append_nil]
  obtain ⟨l', st', hres, hld, hq⟩ := scanLoop_find l h hlo hle hsi [] rfl
  exact ⟨l', hld, by rw [hres, hq]⟩

/-- What `FindByOffset` computes (for `before ≥ -3`; see `findByOffset_panic`). -/
theorem findByOffset_eq (l : Log) (h : Inv l) (before : Int) (hb : -4 < before) :
    ∃ l', Loaded l l' ∧ findByOffset l before = (l', .ok
      (if before = offsetOldest then [] else
        Spec.offsOf ((abs l).live.filter (fun m => decide (m.off <
          (if before = offsetNewest then (abs l).next else before)))))) := by
  unfold findByOffset
  by_cases ho : before = offsetOldest
  · rw [if_pos ho, if_pos ho]; exact ⟨l, Loaded.refl h, rfl⟩
  · rw [if_neg ho, if_neg ho]
    obtain ⟨l1, hnx, hld0⟩ := nextOffset_eq l h
    rw [hnx]
    dsimp only
    have hnn := abs_next_nonneg l h
    have h4 : -4 < (abs l).next := by omega
    generalize hbdef : (if before = offsetNewest then (abs l).next else before) = b
    generalize hmdef : (if before = offsetNewest then (abs l).next
      else if (abs l).next > before then before else (abs l).next) = maxOff
    -- the model's `maxOff` is `min b next`
    have hm : -4 < maxOff ∧ maxOff ≤ (abs l).next ∧ min b (abs l).next ≤ maxOff := by
      rw [← hmdef, ← hbdef]
      by_cases hN : before = offsetNewest
      · rw [if_pos hN, if_pos hN]; exact ⟨h4, Int.le_refl _, Int.min_le_left _ _⟩
      · rw [if_neg hN, if_neg hN]
        by_cases hlt : (abs l).next > before
        · rw [if_pos hlt]; exact ⟨hb, Int.le_of_lt hlt, Int.min_le_left _ _⟩
        · rw [if_neg hlt]; exact ⟨h4, Int.le_refl _, Int.min_le_right _ _⟩
    rw [← hld0.abs] at hm ⊢
    obtain ⟨l', hld, hres⟩ := scanLoop_below l1 hld0.inv b maxOff hm.1 hm.2.1 hm.2.2
    exact ⟨l', hld0.trans hld, by rw [hres]⟩

/-- For every `before ≥ -3`: `OffsetOldest`, `OffsetNewest` and every real offset. -/
theorem findByOffset_ok (l : Log) (h : Inv l) (before : Int) (hb : -4 < before) :
    Spec.FindByOffsetOK (abs l) before (findByOffset l before).2 ∧
    Inv (findByOffset l before).1 ∧ abs (findByOffset l before).1 = abs l := by
  obtain ⟨l', hld, heq⟩ := findByOffset_eq l h before hb
  rw [heq]
  refine ⟨?_, hld.inv, hld.abs⟩
  unfold Spec.FindByOffsetOK
  dsimp only
  by_cases ho : before = offsetOldest
  · rw [if_pos ho, if_pos ho]
  · rw [if_neg ho, if_neg ho]
    exact Spec.SameSet.refl _

/-- The model artefact at `before ≤ -4`: `Helpers.fuelFor` gives the loop no fuel, so the model
reports `.err .panic` (the Go loop just does not iterate and returns the empty set, which
is what `FindByOffsetOK` asks for). -/
theorem findByOffset_panic (l : Log) (h : Inv l) (before : Int) (hb : before ≤ -4) :
    (findByOffset l before).2 = .err .panic ∧ ¬ Spec.FindByOffsetOK (abs l) before (findByOffset l before).2 := by
  have hnn := abs_next_nonneg l h
  have hres : (findByOffset l before).2 = .err .panic := by
    obtain ⟨l1, hnx, _⟩ := nextOffset_eq l h
    unfold findByOffset
    rw [if_neg (by unfold offsetOldest; omega), hnx]
    simp only [if_neg (show before ≠ offsetNewest by unfold offsetNewest; omega),
      if_pos (show (abs l).next > before by omega)]
    rw [show fuelFor before = 0 by unfold fuelFor; omega]
    rfl
  refine ⟨hres, ?_⟩
  rw [hres]
  unfold Spec.FindByOffsetOK
  simp

/-- The bound `FindByAge` scans up to: the offset `GetByTime` found, else `NextOffset`. -/
def ageBound (l1 : Log) (r : Out Msg) : Log × Out Int :=
  match r with
  | .ok m => (l1, .ok m.off)
  | .err .noIndex => l1.nextOffset
  | .err .notFound => l1.nextOffset
  | .err e => (l1, .err e)

def ageTail (before : Int) (bound : Log × Out Int) : Log × Out (List Int) :=
  match bound with
  | (l2, .err e) => (l2, .err e)
  | (l2, .ok maxOff) =>
    scanLoop maxOff (fun _ => true)
      (fun acc msgs =>
        let tk := msgs.takeWhile (fun m => decide (m.time ≤ before))
        (acc ++ tk.map (·.off), decide (tk.length < msgs.length)))
      (fuelFor maxOff) l2 offsetOldest []

theorem findByAge_unfold (l : Log) (before : Int) :
    findByAge l before = ageTail before (ageBound (l.getByTime before).1 (l.getByTime before).2) := rfl

theorem ageBound_loaded (l1 : Log) (h : Inv l1) (r : Out Msg) : Loaded l1 (ageBound l1 r).1 := by
  have hn := (nextOffset_spec l1 h).2
  unfold ageBound
  split <;> first | exact hn | exact Loaded.refl h

/-- `FindByAge` in terms of its bound (`Spec.scanned`: the live messages up to the first newer
than `t`). -/
theorem findByAge_scan (l : Log) (h : Inv l) (t : Int) :
    Loaded l (findByAge l t).1 ∧
    match (ageBound (l.getByTime t).1 (l.getByTime t).2).2 with
    | .err e => (findByAge l t).2 = .err e
    | .ok maxOff =>
      (∃ S R, S ++ R = Spec.scanned (abs l) t ∧ (findByAge l t).2 = .ok (Spec.offsOf S) ∧
        ∀ m ∈ R, maxOff ≤ m.off) ∨
      ((findByAge l t).2 = .err .panic ∧ (maxOff ≤ -4 ∨ (abs l).next < maxOff)) := by
  rw [findByAge_unfold]
  have h1 := (getByTime_loads l t).loaded h
  have h2 := h1.trans (ageBound_loaded _ h1.inv (l.getByTime t).2)
  generalize ageBound (l.getByTime t).1 (l.getByTime t).2 = b at h2 ⊢
  obtain ⟨l2, r⟩ := b
  cases r with
  | err e => exact ⟨h2, rfl⟩
  | ok maxOff =>
    obtain ⟨l', hld, hres⟩ := scanLoop_takeWhile maxOff (fun m => decide (m.time ≤ t))
      (fun (acc : List Int) xs => acc ++ xs.map (·.off))
      (fun st a b => by rw [List.map_append, List.append_assoc]) (fun st => by simp) l2 h2.inv []
    rw [h2.abs] at hres
    unfold ageTail
    dsimp only
    -- the model's loop body, once `dsimp only` has removed its `let`, is `twStep` unfolded
    unfold twStep at hres
    rcases hres with ⟨S, R, hSR, hr, hge⟩ | ⟨hr, hbad⟩
    · rw [hr]
      exact ⟨h2.trans hld, Or.inl ⟨S, R, hSR, rfl, hge⟩⟩
    · rw [hr]
      exact ⟨h2.trans hld, Or.inr ⟨rfl, hbad⟩⟩

theorem findByAge_res (l : Log) (h : Inv l) (before : Int) :
    Loaded l (findByAge l before).1 ∧
    ∀ offs, (findByAge l before).2 = .ok offs →
      ∃ P R, P ++ R = (abs l).live ∧
        offs = Spec.offsOf (P.takeWhile (fun m => decide (m.time ≤ before))) := by
  obtain ⟨hld, hsc⟩ := findByAge_scan l h before
  refine ⟨hld, fun offs ho => ?_⟩
  split at hsc
  · rw [hsc] at ho; cases ho
  · rcases hsc with ⟨S, R, hSR, hr, _⟩ | ⟨hr, _⟩
    · rw [hr] at ho
      refine ⟨S, R ++ (abs l).live.dropWhile (fun m => decide (m.time ≤ before)), ?_, ?_⟩
      · rw [← List.append_assoc, hSR]; exact List.takeWhile_append_dropWhile
      · rw [takeWhile_all (fun m => decide (m.time ≤ before)) S fun a ha =>
          (mem_takeWhile _ _ a (hSR ▸ List.mem_append_left R ha)).2]
        exact (Out.ok.inj ho).symm
    · rw [hr] at ho; cases ho

theorem findByAge_take (l : Log) (h : Inv l) (t : Int) (offs : List Int)
    (hr : (findByAge l t).2 = .ok offs) :
    ∃ n, n ≤ (abs l).live.length ∧ offs = Spec.offsOf ((abs l).live.take n) ∧
      ∀ m ∈ (abs l).live, m.off ∈ offs → m.time ≤ t := by
  obtain ⟨P, R, hPR, hoffs⟩ := (findByAge_res l h t).2 offs hr
  have hpre : P.takeWhile (fun m => decide (m.time ≤ t)) <+: (abs l).live :=
    (List.takeWhile_prefix _).trans ⟨R, hPR⟩
  refine ⟨_, hpre.length_le, by rw [hoffs, ← List.prefix_iff_eq_take.mp hpre], ?_⟩
  intro m hm hmo
  rw [hoffs, off_mem_offsOf_iff (abs_wf l h).1 (fun _ hx => hpre.subset hx) hm] at hmo
  simpa using (mem_takeWhile _ _ _ hmo).2

/-- When `FindByAge` succeeds it returns a prefix of the live messages that holds no
message newer than `t` — `FindByAgeOK` without its monotone clause. -/
theorem findByAge_prefix (l : Log) (h : Inv l) (t : Int) :
    match (findByAge l t).2 with
    | .ok offs =>
      (∃ n, Spec.SameSet offs (Spec.offsOf ((abs l).live.take n))) ∧
      (∀ m ∈ (abs l).live, m.off ∈ offs → m.time ≤ t)
    | .err _ => True := by
  cases hr : (findByAge l t).2 with
  | err e => trivial
  | ok offs =>
    obtain ⟨n, _, he, h2⟩ := findByAge_take l h t offs hr
    subst he
    exact ⟨⟨n, Spec.SameSet.refl _⟩, h2⟩

/-- The same as the L0 relation with `mono := false`. -/
theorem findByAge_ok_of_ok (l : Log) (h : Inv l) (t : Int) (offs : List Int)
    (hr : (findByAge l t).2 = .ok offs) :
    Spec.FindByAgeOK false (abs l) t (.ok offs) ∧
    Inv (findByAge l t).1 ∧ abs (findByAge l t).1 = abs l := by
  have hld := (findByAge_res l h t).1
  obtain ⟨n, hn, he, h2⟩ := findByAge_take l h t offs hr
  subst he
  exact ⟨⟨⟨⟨n, Nat.lt_succ_of_le hn⟩, Spec.SameSet.refl _⟩, h2, fun hc => by cases hc⟩, hld.inv, hld.abs⟩

/-- An empty read-write log with the time index on. -/
def emptyTimesLog : Log := ⟨⟨false, ⟨true, false⟩, false, 1000, Ver.v2, false⟩,
  [⟨0, Ver.v2, [], some ⟨Ver.v2, []⟩, some []⟩], 0, 0⟩

/-- `FindByAgeOK` rejects every error, but on an empty log with the time index on `GetByTime`
answers `ErrInvalidOffset` (as `GetByTimeOK` allows), which `FindByAge` passes on. -/
theorem findByAge_empty_times :
    Inv emptyTimesLog ∧ (abs emptyTimesLog).live = [] ∧
    (findByAge emptyTimesLog 5).2 = .err .invalidOffset ∧
    ∀ mono, ¬ Spec.FindByAgeOK mono (abs emptyTimesLog) 5 (findByAge emptyTimesLog 5).2 := by
  obtain ⟨l', ho, hinv, _⟩ := open_empty ⟨emptyTimesLog.opts, false, false, false⟩
  obtain rfl : l' = emptyTimesLog := Out.ok.inj (ho.symm.trans (by decide))
  have hres : (findByAge emptyTimesLog 5).2 = .err .invalidOffset := by decide
  refine ⟨hinv, rfl, hres, ?_⟩
  intro mono
  rw [hres]
  unfold Spec.FindByAgeOK
  simp
end Klev

#print axioms Klev.scanLoop_rule
#print axioms Klev.scanLoop_find
#print axioms Klev.scanLoop_takeWhile
#print axioms Klev.findByOffset_ok
#print axioms Klev.findByOffset_panic
#print axioms Klev.findByAge_prefix
#print axioms Klev.findByAge_ok_of_ok
#print axioms Klev.findByAge_empty_times
