/-
Crash points of `Open` itself (C05): every directory a crash may leave after a prefix of the
file-system program of a read-write Open (`Klev/CrashOpen.lean`) reopens with Recover to the
same content; the program ends exactly in the files of the model's `Log.open`.

Unless the directory is empty, every step of the program rewrites files of one segment
(`removeIdx`, `putLog`, `putIdx`). It ends where the model does phase by phase (`afterRecover`,
`afterMigrate`), since a program on one base acts on that segment alone (`applySteps_mid`).
For a crash, the program is a concatenation of pieces each of which is safe at every point
(`Safe`): steps on the head, whose index file Recover rebuilds anyway, and per segment the
bracket "index removed, log renamed in, index written" (`Safe.bracket`).
-/
import Klev.CrashOpen
import Klev.Proofs.CrashCore
namespace Klev.Crash
open Klev

theorem recoverProg_on (p : Params) (x : SegDisk) : ∀ st ∈ recoverProg p x, stepOn st = some x.base := by
  intro st hst
  unfold recoverProg at hst
  split at hst
  · cases hst
  · split at hst
    · cases hst
    · simp only [List.mem_cons, List.not_mem_nil, or_false] at hst
      rcases hst with rfl | rfl <;> rfl

theorem migrateProg_on (p : Params) (mv iv : Ver) (s : SegDisk) :
    ∀ st ∈ migrateProg p mv iv s, stepOn st = some s.base := by
  intro st hst
  unfold migrateProg at hst
  split at hst
  · cases hst
  · simp only [List.mem_cons, List.not_mem_nil, or_false] at hst
    rcases hst with rfl | rfl | rfl <;> rfl

theorem writerProg_on (o : Opts) (h : SegDisk) : ∀ st ∈ writerProg o h, stepOn st = some h.base := by
  intro st hst
  simp only [writerProg, List.mem_append] at hst
  rcases hst with hst | hst
  · split at hst
    · cases hst
    · simp only [List.mem_singleton] at hst; subst hst; rfl
  · split at hst
    · split at hst
      · cases hst
      · simp only [List.mem_singleton] at hst; subst hst; rfl
    · cases hst

theorem recover_final (p : Params) (x : SegDisk) : segRun x (recoverProg p x) = segRecover p x := by
  unfold recoverProg segRecover
  cases hi : x.idxf with
  | none => rfl
  | some f =>
    dsimp only
    split
    · rfl
    · simp [segRun, segStep]

theorem migrate_final (p : Params) (mv iv : Ver) (s : SegDisk) :
    segRun s (migrateProg p mv iv s) = segMigrate p mv iv s := by
  unfold migrateProg segMigrate
  by_cases h : s.ver = mv
  · rw [if_pos h, if_pos h]
    rfl
  · rw [if_neg h, if_neg h, segRun_bracket, if_pos rfl]

theorem writer_final (o : Opts) (h : SegDisk) :
    segRun h (writerProg o h) = (openWriter o h.toSeg 0).1.toDisk := by
  obtain ⟨v', its, f, heq, _⟩ := openWriter_out o h.toSeg 0
  simp only [writerProg, heq]
  obtain ⟨b, v, r, i⟩ := h
  dsimp only [SegDisk.toSeg, Seg.toDisk]
  by_cases hv : v' = v <;> by_cases hi : some f = i <;>
    simp [hv, hi, segRun, segStep]

theorem afterMigrate_eq (d : List SegDisk) (oo : OpenOpts) : afterMigrate d oo = openDir oo d := rfl

theorem shapeD_afterRecover (d : List SegDisk) (oo : OpenOpts) : shapeD (afterRecover d oo) = shapeD d := by
  unfold afterRecover
  split
  · exact shapeD_recover _ d
  · rfl

theorem shapeD_afterMigrate (d : List SegDisk) (oo : OpenOpts) : shapeD (afterMigrate d oo) = shapeD d := by
  unfold afterMigrate
  dsimp only
  split
  · exact (shapeD_migrate _ _ _ _).trans (shapeD_afterRecover d oo)
  · exact shapeD_afterRecover d oo

theorem openProg_eq (d : List SegDisk) (x : SegDisk) (hl : d.getLast? = some x) (oo : OpenOpts)
    (hro : oo.opts.readonly = false) :
    openProg d oo = if Refused oo x then [] else
      (if oo.recover then recoverProg oo.opts.params x else []) ++
      (if oo.eager then (afterRecover d oo).flatMap (migrateProg oo.opts.params oo.opts.nsv oo.opts.nsv) else []) ++
      (match (afterMigrate d oo).getLast? with
       | some h2 => writerProg oo.opts h2
       | none => []) := by
  unfold openProg
  rw [hro, hl]
  rfl

def Good (sh : Shape) (d' : List SegDisk) : Prop := shapeD d' = sh ∧ DiskOKH d'

/-- Every crash state of the program `P`, started in a good directory, is good. -/
def Safe (sh : Shape) (P : List FsStep) : Prop :=
  ∀ d', Good sh d' → ∀ k, Good sh (applySteps d' (P.take k))

theorem Safe.nil (sh : Shape) : Safe sh [] := fun d' h k => by rw [List.take_nil]; exact h

theorem Safe.final {sh : Shape} {P : List FsStep} (h : Safe sh P) {d' : List SegDisk}
    (hd : Good sh d') : Good sh (applySteps d' P) := by
  have := h d' hd P.length
  rwa [List.take_of_length_le (Nat.le_refl _)] at this

theorem Safe.append {sh : Shape} {P Q : List FsStep} (hP : Safe sh P) (hQ : Safe sh Q) :
    Safe sh (P ++ Q) := by
  intro d' hd k
  rcases crash_append d' P Q k with ⟨k', hk⟩ | ⟨k', hk⟩ <;> rw [hk]
  · exact hP d' hd k'
  · exact hQ _ (hP.final hd) k'

theorem Safe.flatMap {sh : Shape} {α : Type} (f : α → List FsStep) (L : List α)
    (h : ∀ a ∈ L, Safe sh (f a)) : Safe sh (L.flatMap f) := by
  induction L with
  | nil => exact Safe.nil sh
  | cons a as ih =>
    rw [List.flatMap_cons]
    exact (h a List.mem_cons_self).append (ih (fun b hb => h b (List.mem_cons_of_mem _ hb)))

theorem Safe.ite {sh : Shape} {c : Prop} [Decidable c] {P : List FsStep} (h : Safe sh P) :
    Safe sh (if c then P else []) := by
  split
  · exact h
  · exact Safe.nil sh

theorem Good.steps {sh : Shape} {d' : List SegDisk} (hd : Good sh d') (P : List FsStep)
    (hP : ∀ st ∈ P, ∃ b, stepOn st = some b) (hr : ∀ s ∈ d', (segRun s P).recs = s.recs)
    (hx : ∀ s ∈ d'.dropLast, Exact s → Exact (segRun s P)) : Good sh (applySteps d' P) := by
  rw [applySteps_map P hP]
  have hsh : shapeD (d'.map (fun s => segRun s P)) = sh :=
    (shapeD_map _ fun s hs => ⟨segRun_base P s, hr s hs⟩).trans hd.1
  refine ⟨hsh, by rw [hsh, ← hd.1]; exact hd.2.shape, fun sd hsd => ?_⟩
  rw [← List.map_dropLast] at hsd
  obtain ⟨s, hs, rfl⟩ := List.mem_map.mp hsd
  exact hx s hs (hd.2.idx s hs)

theorem Good.rmIdx {sh : Shape} {d' : List SegDisk} (hd : Good sh d') (b : Int) :
    Good sh (rmIdx b d') := by
  refine hd.steps [.removeIdx b] (fun st h => ⟨b, by simp only [List.mem_singleton] at h; rw [h]; rfl⟩)
    (fun s _ => ?_) (fun s _ hs => ?_)
  · show (if s.base = b then _ else s).recs = _
    split <;> rfl
  · show Exact (if s.base = b then _ else s)
    split
    · intro f hf; cases hf
    · exact hs

theorem Good.recs {sh : Shape} {d' : List SegDisk} (hd : Good sh d') {b : Int} {r : List Msg}
    (hbr : (b, r) ∈ sh) {s : SegDisk} (hs : s ∈ d') (hb : s.base = b) : s.recs = r := by
  obtain ⟨rfl, hok⟩ := hd
  obtain ⟨y, hy, hyb⟩ := List.mem_map.mp hbr
  simp only [Prod.mk.injEq] at hyb
  rw [base_inj ((bases_increasing hok.shape).imp Int.ne_of_lt) hs hy (hb.trans hyb.1.symm), hyb.2]

theorem Good.ne_head {sh : Shape} {d' : List SegDisk} (hd : Good sh d') {hb : Int} {r : List Msg}
    (hl : sh.getLast? = some (hb, r)) : ∀ s ∈ d'.dropLast, s.base ≠ hb := by
  obtain ⟨rfl, hok⟩ := hd
  obtain ⟨pre, y, rfl⟩ := hok.snoc
  rw [shapeD_append, List.getLast?_append, show shapeD [y] = [(y.base, y.recs)] from rfl,
    List.getLast?_singleton, Option.some_or, Option.some.injEq, Prod.mk.injEq] at hl
  intro s hs
  rw [List.dropLast_concat] at hs
  have := (split_order pre [] y hok.shape).1 s hs
  rw [hl.1] at this
  exact Int.ne_of_lt this

theorem Safe.head {sh : Shape} {hb : Int} {r : List Msg} (hl : sh.getLast? = some (hb, r)) (st : FsStep)
    (hon : stepOn st = some hb) (hlog : ∀ v r', st = .putLog hb v r' → r' = r) : Safe sh [st] := by
  intro d' hd k
  rcases k with _ | k
  · exact hd
  rw [List.take_of_length_le (by simp)]
  refine hd.steps [st] (fun st' h => ⟨hb, by simp only [List.mem_singleton] at h; rw [h]; exact hon⟩)
    (fun s hs => ?_) (fun s hs _ => by rw [segRun_ne [st] hb (by simpa using hon) s (hd.ne_head hl s hs)]; assumption)
  cases st <;> dsimp only [segRun, List.foldl, segStep] <;> (try split) <;> try rfl
  next b v r' hbs =>
    simp only [stepOn, Option.some.injEq] at hon
    subst hon
    rw [hlog v r' rfl]
    exact (hd.recs (List.mem_of_getLast? hl) hs hbs).symm

/-- **Index last**, for a crash: removing the index file of a segment, renaming a log with the
same records over its log and writing the index of that log is safe at every point. -/
theorem Safe.bracket {sh : Shape} (p : Params) (b : Int) (mv iv : Ver)
    (r : List Msg) (hbr : (b, r) ∈ sh) :
    Safe sh [.removeIdx b, .putLog b mv r, .putIdx b ⟨iv, derive p mv r⟩] := by
  intro d' hd k
  have hF : Good sh (applySteps d' [.removeIdx b, .putLog b mv r, .putIdx b ⟨iv, derive p mv r⟩]) := by
    refine hd.steps _ (by intro st hst; simp only [List.mem_cons, List.not_mem_nil, or_false] at hst
                          rcases hst with rfl | rfl | rfl <;> exact ⟨b, rfl⟩) (fun s hs => ?_) (fun s _ hx => ?_)
    · rw [segRun_bracket]
      split
      · next h => exact (hd.recs hbr hs h).symm
      · rfl
    · rw [segRun_bracket]
      split
      · exact fun f hf => by cases hf; exact derive_itemsFor _ _ _
      · exact hx
  rcases bracket_states b mv r ⟨iv, derive p mv r⟩ d' k with h | h | h | h <;> rw [h]
  · exact hd
  · exact hd.rmIdx b
  · exact hF.rmIdx b
  · exact hF

theorem Safe.recover {sh : Shape} (p : Params) (x : SegDisk) (hl : sh.getLast? = some (x.base, x.recs)) :
    Safe sh (recoverProg p x) := by
  unfold recoverProg
  split
  · exact Safe.nil _
  · split
    · exact Safe.nil _
    · exact Safe.append (P := [_]) (Safe.head hl _ rfl (by intro v r h; cases h))
        (Safe.head hl _ rfl (by intro v r h; cases h))

theorem Safe.migrate {sh : Shape} (p : Params) (mv iv : Ver) (s : SegDisk)
    (hs : (s.base, s.recs) ∈ sh) : Safe sh (migrateProg p mv iv s) := by
  unfold migrateProg
  split
  · exact Safe.nil _
  · exact Safe.bracket p _ _ _ _ hs

theorem Safe.writer {sh : Shape} (o : Opts) (h : SegDisk) (hl : sh.getLast? = some (h.base, h.recs)) :
    Safe sh (writerProg o h) := by
  unfold writerProg
  refine Safe.append ?_ ?_
  · split
    · exact Safe.nil _
    · exact Safe.head hl _ rfl (by intro v r e; injection e with _ _ e3; exact e3.symm)
  · split
    · split
      · exact Safe.nil _
      · exact Safe.head hl _ rfl (by intro v r e; cases e)
    · exact Safe.nil _

/-- Every crash state of Open has the bases and records of the directory it started from, and
every index file except the head's is absent or exact. -/
theorem open_crash_disk (d : List SegDisk) (hd : DiskOKH d) (oo : OpenOpts) (k : Nat) :
    shapeD (openCrashState d oo k) = shapeD d ∧ DiskOKH (openCrashState d oo k) := by
  suffices h : Safe (shapeD d) (openProg d oo) from h d ⟨rfl, hd⟩ k
  obtain ⟨pre, x, rfl⟩ := hd.snoc
  have hx : (shapeD (pre ++ [x])).getLast? = some (x.base, x.recs) := by simp [shapeD]
  cases hro : oo.opts.readonly with
  | true =>
    have : openProg (pre ++ [x]) oo = [] := by unfold openProg; rw [if_pos hro]
    rw [this]; exact Safe.nil _
  | false =>
    rw [openProg_eq _ x List.getLast?_concat oo hro]
    by_cases hc : Refused oo x
    · rw [if_pos hc]
      exact Safe.nil _
    rw [if_neg hc]
    refine (Safe.append (Safe.ite (Safe.recover _ x hx)) (Safe.ite (Safe.flatMap _ _ fun s hs => ?_))).append ?_
    · apply Safe.migrate
      rw [← shapeD_afterRecover _ oo]
      exact List.mem_map.mpr ⟨s, hs, rfl⟩
    · -- the head after both phases is still the last segment of the shape
      cases h2 : (afterMigrate (pre ++ [x]) oo).getLast? with
      | none => exact Safe.nil _
      | some y =>
        refine Safe.writer oo.opts y ?_
        rw [← shapeD_afterMigrate _ oo]
        unfold shapeD
        rw [List.getLast?_map, h2]
        rfl

/-- **A crash anywhere inside a read-write Open** leaves a directory that reopens with Recover
(any other options) to the same content. -/
theorem open_crash_reopens (d : List SegDisk) (hd : DiskOKH d) (oo : OpenOpts) (k : Nat)
    (oo' : OpenOpts) (hrec : oo'.recover = true) (hro : oo'.opts.readonly = false) :
    ∃ l', Log.open (openCrashState d oo k) oo' = .ok l' ∧ Inv l' ∧ abs l' = absDisk d := by
  obtain ⟨hsh, hok⟩ := open_crash_disk d hd oo k
  obtain ⟨l', h1, h2, h3⟩ := open_recover_spec _ hok oo' hrec hro
  refine ⟨l', h1, h2, ?_⟩
  rw [h3]; unfold absDisk; rw [hsh]

theorem open_prog_final (d : List SegDisk) (hd : DiskOKH d) (oo : OpenOpts)
    (hro : oo.opts.readonly = false) (l' : Log) (h : Log.open d oo = .ok l') :
    applySteps d (openProg d oo) = l'.disk := by
  obtain ⟨pre, x, rfl⟩ := hd.snoc
  have hc := (open_rw_ok_iff pre x oo hro).mp ⟨l', h⟩
  rcases open_ok h with ⟨h0, _⟩ | ⟨_, pre', y, hcase, rfl⟩
  · rw [hro] at h0; cases h0
  rcases hcase with ⟨he, _⟩ | ⟨_, hod⟩
  · cases (List.append_eq_nil_iff.mp he).2
  have hy := (afterMigrate_eq (pre ++ [x]) oo).trans hod
  have hsR := hd.shape
  have hsM := hd.shape
  rw [← shapeD_afterRecover _ oo] at hsR
  rw [← shapeD_afterMigrate _ oo, hy] at hsM
  have h1 : applySteps (pre ++ [x]) (if oo.recover then recoverProg oo.opts.params x else []) =
      afterRecover (pre ++ [x]) oo := by
    unfold afterRecover
    by_cases hr : oo.recover = true
    · rw [if_pos hr, if_pos hr, applySteps_mid _ pre [] x (recoverProg_on _ x)
        (fun s hs => Int.ne_of_lt ((split_order pre [] x hd.shape).1 s hs)) (List.forall_mem_nil _), recover_final,
        mapLast_snoc]
    · rw [if_neg hr, if_neg hr]
      rfl
  have h2 : applySteps (afterRecover (pre ++ [x]) oo) (if oo.eager then (afterRecover (pre ++ [x]) oo).flatMap
        (migrateProg oo.opts.params oo.opts.nsv oo.opts.nsv) else []) = afterMigrate (pre ++ [x]) oo := by
    unfold afterMigrate
    by_cases he : oo.eager = true
    · have := applySteps_flatMap _ (migrateProg_on oo.opts.params oo.opts.nsv oo.opts.nsv)
        (afterRecover (pre ++ [x]) oo) []
        (by rw [List.nil_append, List.pairwise_map]; exact (bases_increasing hsR).imp Int.ne_of_lt)
      simpa [he, migrate_final] using this
    · rw [if_neg he, if_neg he]
      rfl
  rw [openProg_eq _ x List.getLast?_concat oo hro, if_neg hc, applySteps_append, applySteps_append, h1, h2, hy,
    List.getLast?_concat]
  dsimp only
  rw [applySteps_mid _ pre' [] y (writerProg_on _ _)
    (fun s hs => Int.ne_of_lt ((split_order pre' [] y hsM).1 s hs)) (List.forall_mem_nil _), writer_final]
  unfold openedRW Log.disk
  rw [List.map_append, List.map_map]
  exact congrArg (· ++ _) (List.map_id' _).symm

theorem openCrashState_last (d : List SegDisk) (hd : DiskOKH d) (oo : OpenOpts)
    (hro : oo.opts.readonly = false) (l' : Log) (h : Log.open d oo = .ok l') :
    openCrashState d oo (openProg d oo).length = l'.disk := by
  unfold openCrashState
  rw [List.take_of_length_le (Nat.le_refl _)]
  exact open_prog_final d hd oo hro l' h

theorem diskOKH_fresh (v : Ver) (i : Option IdxFile) : DiskOKH [⟨0, v, [], i⟩] := by
  refine ⟨?_, ?_⟩
  · show ShapeOK [((0 : Int), ([] : List Msg))]
    rw [shapeOK_singleton]
    refine ⟨by simp, ?_, ?_⟩
    · intro m hm; simp at hm
    · simp
  · intro sd hsd; simp at hsd

theorem open_crash_reopens_empty (oo : OpenOpts) (hro0 : oo.opts.readonly = false) (k : Nat)
    (oo' : OpenOpts) (hrec : oo'.recover = true) (hro : oo'.opts.readonly = false) :
    ∃ l', Log.open (openCrashState [] oo k) oo' = .ok l' ∧ Inv l' ∧ (abs l').live = [] ∧ (abs l').next = 0 := by
  have hprog : openProg [] oo = newHead 0 oo.opts.nsv := by
    unfold openProg
    rw [if_neg (by rw [hro0]; simp)]
    rfl
  unfold openCrashState
  rw [hprog]
  have hfresh : ∀ i, ∃ l', Log.open [⟨0, oo.opts.nsv, [], i⟩] oo' = .ok l' ∧ Inv l' ∧
      (abs l').live = [] ∧ (abs l').next = 0 := by
    intro i
    obtain ⟨l', h1, h2, h3⟩ := open_recover_spec _ (diskOKH_fresh oo.opts.nsv i) oo' hrec hro
    exact ⟨l', h1, h2, by rw [h3]; rfl, by rw [h3]; rfl⟩
  rcases newHead_states [] 0 oo.opts.nsv (List.forall_mem_nil _) k with h | h | h
  · rw [h]
    obtain ⟨l', h1, h2, h3, _⟩ := open_empty oo'
    exact ⟨l', h1, h2, by rw [h3], by rw [h3]⟩
  · rw [h]; exact hfresh none
  · rw [h]; exact hfresh _

theorem open_crash_state_mem (d : List SegDisk) (oo : OpenOpts) (k : Nat)
    (hk : k ≤ (openProg d oo).length) : openCrashState d oo k ∈ openCrashStates d oo := by
  unfold openCrashStates
  exact List.mem_map.mpr ⟨k, List.mem_range.mpr (Nat.lt_succ_of_le hk), rfl⟩

theorem open_crash_state_beyond (d : List SegDisk) (oo : OpenOpts) (k : Nat)
    (hk : (openProg d oo).length ≤ k) :
    openCrashState d oo k = openCrashState d oo (openProg d oo).length := by
  unfold openCrashState
  rw [List.take_of_length_le hk, List.take_of_length_le (Nat.le_refl _)]

theorem open_crash_state_mem' (d : List SegDisk) (oo : OpenOpts) (k : Nat) :
    openCrashState d oo k ∈ openCrashStates d oo := by
  by_cases hk : k ≤ (openProg d oo).length
  · exact open_crash_state_mem d oo k hk
  · rw [open_crash_state_beyond d oo k (Nat.le_of_not_le hk)]
    exact open_crash_state_mem d oo _ (Nat.le_refl _)

def oxOpts : OpenOpts :=
  { opts := { readonly := false, params := ⟨false, false⟩, autosync := false, rollover := 1000,
              nsv := .v2, keep := false },
    check := false, recover := true, eager := true }

def oxR0 : List Msg := [⟨0, 10, [], [1]⟩, ⟨1, 11, [], [2]⟩]
def oxR2 : List Msg := [⟨2, 12, [], [3]⟩, ⟨3, 13, [], [4]⟩]

/-- Segment `0: [0, 1]` (V1, exact index) and head `2: [2, 3]` (V1) whose index file holds
only the item of the first record (a crash between a record and its item). -/
def oxD : List SegDisk :=
  [⟨0, .v1, oxR0, some ⟨.v1, derive ⟨false, false⟩ .v1 oxR0⟩⟩,
   ⟨2, .v1, oxR2, some ⟨.v1, (derive ⟨false, false⟩ .v1 oxR2).take 1⟩⟩]

theorem oxD_ok : DiskOKH oxD := by
  refine ⟨?_, ?_⟩
  · show ShapeOK ([((0 : Int), oxR0)] ++ [((2 : Int), oxR2)])
    rw [shapeOK_snoc_iff]
    refine ⟨?_, by simp, ?_, ?_⟩
    · intro br hbr
      simp only [List.mem_singleton] at hbr; subst hbr
      exact ⟨⟨by decide +kernel, by decide +kernel, by decide +kernel⟩, by decide +kernel⟩
    · intro br hbr
      simp only [List.mem_singleton] at hbr; subst hbr
      exact ⟨by decide +kernel, by decide +kernel⟩
    · exact ⟨by decide +kernel, by decide +kernel, by decide +kernel⟩
  · intro sd hsd
    have : sd = ⟨0, .v1, oxR0, some ⟨.v1, derive ⟨false, false⟩ .v1 oxR0⟩⟩ := by
      simpa [oxD] using hsd
    subst this
    intro f hf
    simp only [Option.some.injEq] at hf; subst hf
    exact derive_itemsFor _ _ _

/-- The head index is stale: Check refuses this directory. -/
example : Log.open oxD { oxOpts with recover := false, eager := false, check := true } = .err .indexCorrupt := by
  decide +kernel

/-- Recover of the head (2 steps), migration of both segments (3 + 3 steps); `openWriter` finds
nothing left to do. -/
theorem ox_prog_length : (openProg oxD oxOpts).length = 8 := by decide +kernel

theorem ox_prog_steps : (openProg oxD oxOpts).map stepOn =
    [some 2, some 2, some 0, some 0, some 0, some 2, some 2, some 2] := by decide +kernel

theorem ox_states_distinct : (openCrashStates oxD oxOpts).Nodup := by decide +kernel

theorem ox_states_length : (openCrashStates oxD oxOpts).length = 9 := by decide +kernel

/-- Versions of the log files and presence of the index files along the program. -/
theorem ox_states_view :
    (openCrashStates oxD oxOpts).map (fun d => d.map (fun s => (s.base, s.ver, s.idxf.isSome))) =
      [[(0, .v1, true), (2, .v1, true)], [(0, .v1, true), (2, .v1, false)], [(0, .v1, true), (2, .v1, true)],
       [(0, .v1, false), (2, .v1, true)], [(0, .v2, false), (2, .v1, true)], [(0, .v2, true), (2, .v1, true)],
       [(0, .v2, true), (2, .v1, false)], [(0, .v2, true), (2, .v2, false)], [(0, .v2, true), (2, .v2, true)]] := by
  decide +kernel

/-- The content of every crash state is the content of the directory. -/
theorem ox_states_content :
    (openCrashStates oxD oxOpts).all
      (fun d => decide (((absDisk d).live.map (·.off), (absDisk d).next) = ([0, 1, 2, 3], 4))) = true := by
  decide +kernel

/-- The program ends in the files of the model's Open (an instance of `open_prog_final`,
computed). -/
theorem ox_final : Log.open oxD oxOpts = .ok (okOr default (Log.open oxD oxOpts)) ∧
    applySteps oxD (openProg oxD oxOpts) = (okOr default (Log.open oxD oxOpts)).disk := by decide +kernel

/-- One instance of `open_crash_reopens` with the recovered content computed: the crash after
`putLog 0` (segment 0 is V2 without an index, the head is still V1), reopened without eager
migration. -/
theorem ox_crash_reopens :
    ∃ l', Log.open (openCrashState oxD oxOpts 4) { oxOpts with eager := false } = .ok l' ∧ Inv l' ∧
      (abs l').live.map (·.off) = [0, 1, 2, 3] ∧ (abs l').next = 4 ∧
      l'.segs.map (·.ver) = [.v2, .v1] := by
  obtain ⟨l', h, hinv, _⟩ := open_crash_reopens oxD oxD_ok oxOpts 4 { oxOpts with eager := false } rfl rfl
  refine ⟨l', h, hinv, ?_⟩
  have h' : Log.open (openCrashState oxD oxOpts 4) { oxOpts with eager := false } =
      .ok (okOr default (Log.open (openCrashState oxD oxOpts 4) { oxOpts with eager := false })) := by decide +kernel
  rw [h'] at h
  simp only [Out.ok.injEq] at h
  subst h
  decide +kernel

/-- The empty directory: `createSeg 0`, `putIdx 0`. -/
theorem ox_empty_states : openCrashStates [] oxOpts =
    [[], [⟨0, .v2, [], none⟩], [⟨0, .v2, [], some ⟨.v2, []⟩⟩]] := by decide +kernel

end Klev.Crash

#print axioms Klev.Crash.open_crash_disk
#print axioms Klev.Crash.open_crash_reopens
#print axioms Klev.Crash.open_prog_final
#print axioms Klev.Crash.openCrashState_last
#print axioms Klev.Crash.open_crash_reopens_empty
#print axioms Klev.Crash.open_crash_state_mem
#print axioms Klev.Crash.open_crash_state_beyond
#print axioms Klev.Crash.open_crash_state_mem'
#print axioms Klev.Crash.oxD_ok
#print axioms Klev.Crash.ox_prog_length
#print axioms Klev.Crash.ox_states_distinct
#print axioms Klev.Crash.ox_states_view
#print axioms Klev.Crash.ox_states_content
#print axioms Klev.Crash.ox_final
#print axioms Klev.Crash.ox_crash_reopens
