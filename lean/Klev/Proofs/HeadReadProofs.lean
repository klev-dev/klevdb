/-
Lemmas for the head-read theorems of `Props/C08` (`Klev/HeadRead.lean`), and the two heads of the
counterexample for the other order (D22).
-/
import Klev.HeadRead
import Klev.Spec
namespace Klev.HeadRead
open Klev

/-- Instance search reaches these only after the order-package instances, wherever two keys are
compared with `==`. -/
instance : LawfulBEq UInt8 := instLawfulBEq
instance : ReflBEq UInt8 := instLawfulBEq.toReflBEq

theorem answer_nil (n : Int) : answer n [] = (n, []) := rfl

theorem answer_of_getLast? {n : Int} {ms : List Msg} {l : Msg} (h : ms.getLast? = some l) :
    answer n ms = (l.off + 1, ms) := by
  unfold answer; rw [h]

theorem answer_snd (n : Int) (ms : List Msg) : (answer n ms).2 = ms := by
  unfold answer
  cases h : ms.getLast? with
  | none => exact (List.getLast?_eq_none_iff.mp h).symm
  | some l => rfl

theorem answer_fst_le {n bound : Int} {ms : List Msg} (hn : n ≤ bound) (h : ∀ l ∈ ms, l.off < bound) :
    (answer n ms).1 ≤ bound := by
  cases hl : ms.getLast? with
  | none => rw [List.getLast?_eq_none_iff.mp hl]; exact hn
  | some l =>
    rw [answer_of_getLast? hl]
    exact Int.add_one_le_of_lt (h l (List.mem_of_getLast? hl))

theorem answer_ne (n n' : Int) (ms : List Msg) (h : ms ≠ []) : answer n ms = answer n' ms := by
  cases hl : ms.getLast? with
  | none => exact absurd (List.getLast?_eq_none_iff.mp hl) h
  | some l => rw [answer_of_getLast? hl, answer_of_getLast? hl]

theorem mem_take_of_lt_answer {F : List Msg} (hs : F.Pairwise (fun x y => x.off < y.off)) {k : Nat}
    (hk : 0 < k) {n : Int} {m : Msg} (hm : m ∈ F) (hlt : m.off < (answer n (F.take k)).1) :
    m ∈ F.take k := by
  cases hl : (F.take k).getLast? with
  | none =>
    rcases List.take_eq_nil_iff.mp (List.getLast?_eq_none_iff.mp hl) with h | h
    · exact absurd h (Nat.ne_of_gt hk)
    · rw [h] at hm; cases hm
  | some l =>
    rw [answer_of_getLast? hl] at hlt
    -- `m` among the dropped ones would come after `l`, the last one taken
    rw [← List.take_append_drop k F] at hm hs
    refine (List.mem_append.mp hm).resolve_right fun h => ?_
    have := (List.pairwise_append.mp hs).2.2 l (List.mem_of_getLast? hl) m h
    simp only at hlt
    omega

theorem pick_eq (s : Spec) (key : List UInt8) (off : Int) (max : Nat) :
    pick s.live key off max = (Spec.withKey (Spec.fromOff s off) key).take max := by
  rw [pick, Spec.withKey, Spec.fromOff, List.filter_filter]
  congr 2
  funext m
  rw [Bool.beq_eq_decide_eq]

/-- The sequential answer on the head is an answer the L0 relation of C09 accepts (for an
absolute offset and a count of at least 1). -/
theorem spec_l0 (h : Head) (key : List UInt8) (off : Int) (max : Nat) (hmax : 0 < max)
    (hoff : off ≠ offsetNewest) :
    Spec.ConsumeByKeyOK true ⟨h.recs, h.next⟩ key off max (.ok (spec h key off max)) := by
  unfold Spec.ConsumeByKeyOK
  rw [if_neg (by simp), if_neg hoff]
  by_cases hgt : off > h.next
  · rw [if_pos hgt]; trivial
  rw [if_neg hgt]
  unfold spec
  rw [pick_eq ⟨h.recs, h.next⟩]
  generalize Spec.withKey (Spec.fromOff ⟨h.recs, h.next⟩ off) key = F
  cases hl : (F.take max).getLast? with
  | none =>
    have hF : F = [] :=
      (List.take_eq_nil_iff.mp (List.getLast?_eq_none_iff.mp hl)).resolve_left (Nat.ne_of_gt hmax)
    subst hF
    simp [answer]
    exact Int.le_trans (Int.natCast_nonneg max) (Int.le_max_left _ _)
  | some l =>
    rw [answer_of_getLast? hl]
    dsimp only
    refine ⟨List.take_prefix _ _, ?_, ?_, by rw [hl]⟩
    · have := List.length_take_le max F
      omega
    · intro _ hnil; rw [hnil] at hl; cases hl

def dA : Head := ⟨[], 0⟩
def dB : Head := ⟨[⟨0, 5, [1], [2]⟩], 1⟩

theorem d_grows : Grows dA dB := ⟨⟨[⟨0, 5, [1], [2]⟩], rfl, by intro m hm; simp at hm; subst hm; decide⟩, by decide⟩

#print axioms Klev.HeadRead.spec_l0

end Klev.HeadRead
