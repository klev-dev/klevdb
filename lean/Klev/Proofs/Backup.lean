/-
Backup copies the files of every segment; the copy is a clean directory with the same
content, and opening it (any options) gives a log with the invariant and that content.
-/
import Klev.Proofs.Reach
namespace Klev

/-- The directory a backup into an empty directory produces (and a repeated backup into
the same directory while the source was only appended to: files of equal size are equal,
so skipping them is the same as copying them): a copy of every segment's files. -/
def backupDisk (l : Log) : List SegDisk := l.disk

theorem backup_clean (l : Log) (hinv : Inv l) : DiskOK (backupDisk l) ∧ absDisk (backupDisk l) = abs l :=
  disk_of_inv l hinv

theorem backup_opens_same (l : Log) (hinv : Inv l) (oo : OpenOpts) (l' : Log)
    (h : Log.open (backupDisk l) oo = .ok l') : Inv l' ∧ abs l' = abs l := by
  obtain ⟨hd, ha⟩ := backup_clean l hinv
  obtain ⟨h1, h2, _⟩ := open_spec _ hd oo l' h
  exact ⟨h1, h2.trans ha⟩

/-- Publishing only appends: the old content is a prefix of the new. -/
theorem append_extends (l : Log) (hinv : Inv l) (hro : l.opts.readonly = false)
    (batch : List (Int × List UInt8 × List UInt8)) :
    (abs l).live <+: (abs (l.publish batch).1).live := by
  rw [(publish_rw l hinv hro batch).2.2]
  exact List.prefix_append _ _

end Klev
