/-
`Segment.Recover` and `Segment.Check` (`Klev/SegBytes.lean`) as functions of the scan's result
and the index file, on any files whose log header is recognised.
-/
import Klev.SegBytes
namespace Klev

/-- The index file `Recover` leaves, given the one it found and the index it derived. -/
def recoveredIdx (p : Params) (base : Int) (want : List Item) :
    Option (List UInt8) → Option (List UInt8)
  | none => none
  | some ib =>
    match parseIdx p ib base with
    | .error _ => none
    | .ok (iv, items) => if items = want then some ib else some (renderIdx p iv want)

theorem Seg.recover_of_version (p : Params) (f : SegFiles) (v : Ver)
    (hv : logVersion f.log f.base = .ok v) :
    Seg.recover p f = .ok ⟨f.base,
      match (scan v f.log).fin with
        | .corrupt _ => render v ((scan v f.log).recs.map (·.2))
        | .clean => f.log,
      recoveredIdx p f.base (deriveScan p (scan v f.log).recs) f.idx⟩ := by
  unfold Seg.recover
  rw [hv]
  cases f.idx <;> rfl

theorem Seg.check_ok_iff (p : Params) (f : SegFiles) (v : Ver)
    (hv : logVersion f.log f.base = .ok v) :
    Seg.check p f = .ok () ↔ (scan v f.log).fin = .clean ∧
      (f.idx = none ∨ ∃ ib iv items, f.idx = some ib ∧ parseIdx p ib f.base = .ok (iv, items) ∧
        items = deriveScan p (scan v f.log).recs) := by
  unfold Seg.check
  rw [hv]
  dsimp only
  -- in each case the `match`es of `Seg.check` reduce; the two trivial ones are closed by hand
  cases (scan v f.log).fin with
  | corrupt e => exact ⟨nofun, fun h => nomatch h.1⟩
  | clean =>
    cases f.idx with
    | none => exact ⟨fun _ => ⟨rfl, .inl rfl⟩, fun _ => rfl⟩
    | some ib =>
      cases hp : parseIdx p ib f.base with
      | error e => simp [hp]
      | ok r =>
        obtain ⟨iv, items⟩ := r
        simp [hp]

theorem recoveredIdx_parses (p : Params) (base : Int) (want : List Item)
    (idx : Option (List UInt8))
    (hrt : ∀ iv, parseIdx p (renderIdx p iv want) base = .ok (iv, want)) :
    recoveredIdx p base want idx = none ∨ ∃ ib iv items, recoveredIdx p base want idx = some ib ∧
      parseIdx p ib base = .ok (iv, items) ∧ items = want := by
  cases idx with
  | none => exact .inl rfl
  | some ib =>
    rw [recoveredIdx]
    cases hp : parseIdx p ib base with
    | error e => exact .inl rfl
    | ok r =>
      obtain ⟨iv, items⟩ := r
      by_cases heq : items = want
      · exact .inr ⟨ib, iv, items, if_pos heq, hp, heq⟩
      · exact .inr ⟨_, iv, _, if_neg heq, hrt iv, rfl⟩

theorem recover_noop_of_check (p : Params) (f : SegFiles) (h : Seg.check p f = .ok ()) :
    Seg.recover p f = .ok f := by
  cases hv : logVersion f.log f.base with
  | error e => simp [Seg.check, hv] at h
  | ok v =>
    obtain ⟨hfin, hidx⟩ := (Seg.check_ok_iff p f v hv).mp h
    rw [Seg.recover_of_version p f v hv, hfin]
    obtain ⟨base, log, idx⟩ := f
    dsimp only at hidx ⊢
    rcases hidx with rfl | ⟨ib, iv, items, rfl, hp, rfl⟩
    · rfl
    · simp only [recoveredIdx, hp, if_true]

end Klev
