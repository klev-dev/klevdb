/-
`Log.getByKey` and `Log.consumeByKey` satisfy the L0 relations `GetByKeyOK` and
`ConsumeByKeyOK` on every log that satisfies the invariant and whose indexes carry the
key hashes of their records (`KeysInv`) — the refinement theorems for C09.

No proof unfolds `fnv1a`: a hash collision only adds candidates, which the byte
comparison of the stored key removes.
-/
import Klev.Proofs.GetOK
namespace Klev

def KeysFor (recs : List Msg) (its : List Item) : Prop :=
  its.map (·.kh) = recs.map (fun m => fnv1a m.key)

def KeysInv (l : Log) : Prop :=
  ∀ s ∈ l.segs, (∀ its, s.mem = some its → KeysFor s.recs its) ∧
    (∀ f, s.idxf = some f → KeysFor s.recs f.items)

def KeysInv' (l : Log) : Prop := l.opts.params.keys = true → KeysInv l

theorem deriveFrom_keys (p : Params) (hk : p.keys = true) : ∀ (ts : Int) (L : List (Int × Msg)),
    (deriveFrom p ts L).map (·.kh) = L.map (fun pm => fnv1a pm.2.key) := by
  intro ts L
  induction L generalizing ts with
  | nil => rfl
  | cons pm rest ih =>
    obtain ⟨pos, m⟩ := pm
    simp [deriveFrom, newItem, ih, hk]

theorem derive_keysFor (p : Params) (v : Ver) (recs : List Msg) (hk : p.keys = true) :
    KeysFor recs (derive p v recs) := by
  unfold KeysFor derive
  rw [deriveFrom_keys p hk]
  have := congrArg (List.map (fun m : Msg => fnv1a m.key)) (layout_map_snd v recs)
  simpa [List.map_map, Function.comp_def] using this

theorem withIndex_keys (l : Log) (i : Nat) (hk : KeysInv l) (hp : l.opts.params.keys = true)
    {l1 : Log} {s' : Seg} {its : List Item} {c : RCtx}
    (hw : withIndex l i = some (l1, s', its, c)) : KeysInv l1 ∧ KeysFor s'.recs its :=
  withIndex_P KeysFor l i hk (fun _ _ => derive_keysFor _ _ _ hp) hw

theorem keys_read {s : Seg} {its : List Item} (hit : ItemsFor s.ver s.recs its)
    (hk : KeysFor s.recs its) (h : UInt64) :
    match Index.keys its h with
    | .ok ps => ps.map (readAt s) = (s.recs.filter (fun m => fnv1a m.key == h)).map some
    | .error e => e = .keyNotFound ∧ s.recs.filter (fun m => fnv1a m.key == h) = [] := by
  have hc : ((its.filter (fun it => it.kh == h)).map (·.pos)).map (readAt s) =
      (s.recs.filter (fun m => fnv1a m.key == h)).map some := by
    rw [List.map_map]
    exact ((hit.names.and_map hk).filter (fun a b hab => by rw [hab.2])).map_eq
      (fun a b hab => hab.1.1)
  unfold Index.keys
  cases hps : (its.filter (fun it => it.kh == h)).map (·.pos) with
  | nil =>
    rw [hps] at hc
    exact ⟨rfl, List.map_eq_nil_iff.mp hc.symm⟩
  | cons p ps =>
    rw [hps] at hc
    exact hc

theorem getByKey_go_spec (s : Seg) (key : List UInt8) : ∀ (ms : List Msg) (ps : List Int),
    ps.map (readAt s) = ms.map some →
    readerGetByKey.go s key ps =
      match ms.find? (fun m => decide (m.key = key)) with
      | some m => .ok m
      | none => .ierr .keyNotFound := by
  intro ms
  induction ms with
  | nil =>
    intro ps h
    rw [List.map_eq_nil_iff.mp h]
    rfl
  | cons m ms ih =>
    intro ps h
    obtain ⟨p, ps, rfl, hp, hps⟩ := List.map_eq_cons_iff.mp h
    unfold readerGetByKey.go
    rw [hp]
    simp only [List.find?_cons]
    by_cases hkey : m.key = key
    · simp [hkey]
    · simp only [hkey, if_false, decide_false]
      exact ih ps hps

theorem withKey_hash (recs : List Msg) (key : List UInt8) :
    Spec.withKey (recs.filter (fun m => fnv1a m.key == fnv1a key)) key = Spec.withKey recs key := by
  unfold Spec.withKey
  rw [List.filter_filter]
  apply List.filter_congr
  intro m _
  by_cases hkey : m.key = key
  · simp [hkey]
  · simp [hkey]

theorem readerGetByKey_spec (s : Seg) (its : List Item) (key : List UInt8)
    (hit : ItemsFor s.ver s.recs its) (hk : KeysFor s.recs its) :
    readerGetByKey s its key =
      match (Spec.withKey s.recs key).getLast? with
      | some m => .ok m
      | none => .ierr .keyNotFound := by
  have hc := keys_read hit hk (fnv1a key)
  rw [← withKey_hash]
  generalize s.recs.filter (fun m => fnv1a m.key == fnv1a key) = H at hc
  unfold readerGetByKey
  cases hK : Index.keys its (fnv1a key) with
  | error e =>
    rw [hK] at hc
    obtain ⟨rfl, rfl⟩ := hc
    rfl
  | ok ps =>
    rw [hK] at hc
    dsimp only
    rw [getByKey_go_spec s key _ _ (by rw [List.map_reverse, hc, List.map_reverse]),
      ← List.getLast?_filter]
    rfl

theorem withKey_append (a b : List Msg) (key : List UInt8) :
    Spec.withKey (a ++ b) key = Spec.withKey a key ++ Spec.withKey b key := by
  unfold Spec.withKey; exact List.filter_append _ _

theorem getByKey_go_loads (key : List UInt8) :
    ∀ (i : Nat) (l : Log), Loads l (Log.getByKey.go key l i).1 := by
  intro i
  induction i with
  | zero => intro l; rw [Log.getByKey.go.eq_1]; exact .refl l
  | succ i ih =>
    intro l
    rw [Log.getByKey.go.eq_2]
    refine Loads.load (.refl l) fun l1 _ _ _ => ?_
    split
    · exact .refl l1
    · exact ih l1
    · exact .refl l1

theorem getByKey_loads (l : Log) (key : List UInt8) : Loads l (l.getByKey key).1 := by
  unfold Log.getByKey
  split
  · exact .refl l
  · exact getByKey_go_loads key _ l

theorem getByKey_walk (key : List UInt8) : ∀ (i : Nat) (l : Log), Inv l → KeysInv l →
    l.opts.params.keys = true → i ≤ l.segs.length →
    (Log.getByKey.go key l i).2 =
      match (Spec.withKey (flat ((shape l.segs).take i)) key).getLast? with
      | some m => .ok m
      | none => .err .notFound := by
  intro i
  induction i with
  | zero =>
    intro l _ _ _ _
    rw [Log.getByKey.go.eq_1]
    simp [flat, Spec.withKey]
  | succ i ih =>
    intro l hinv hk hp hi
    have hlen := shape_length l.segs
    obtain ⟨l1, s', its, c, hw, hl1, hr⟩ := withIndex_read l hinv i (Nat.lt_of_succ_le hi)
    obtain ⟨hk1, hkf⟩ := withIndex_keys l i hk hp hw
    rw [Log.getByKey.go.eq_2, hw]
    dsimp only
    rw [readerGetByKey_spec s' its key hr.items hkf,
      flat_take_succ _ i (hlen ▸ Nat.lt_of_succ_le hi), withKey_append, List.getLast?_append,
      ← hr.recs]
    cases hlast : (Spec.withKey s'.recs key).getLast? with
    | some m => rfl
    | none =>
      simp only [Option.none_or]
      rw [ih l1 hl1.inv hk1 (by rw [hl1.opts]; exact hp)
        (by rw [hl1.len]; exact Nat.le_of_succ_le hi), hl1.shape]

/-- **C09 refinement (GetByKey)**: the last live message with exactly that key;
`ErrNotFound` if there is none; `ErrNoIndex` without the key index. -/
theorem getByKey_ok' (l : Log) (hinv : Inv l) (hki : KeysInv' l) (key : List UInt8) :
    Spec.GetByKeyOK l.opts.params.keys (abs l) key (l.getByKey key).2 := by
  unfold Spec.GetByKeyOK Log.getByKey
  by_cases hp : l.opts.params.keys = true
  · simp only [hp, not_true_eq_false, if_false]
    rw [getByKey_walk key l.segs.length l hinv (hki hp) hp (Nat.le_refl _),
      List.take_of_length_le (by rw [shape_length]; exact Nat.le_refl _)]
    rw [abs_live]
    cases (Spec.withKey (flat (shape l.segs)) key).getLast? <;> rfl
  · simp [hp]

theorem getByKey_ok (l : Log) (hinv : Inv l) (hk : KeysInv l) (key : List UInt8) :
    Spec.GetByKeyOK l.opts.params.keys (abs l) key (l.getByKey key).2 :=
  getByKey_ok' l hinv (fun _ => hk) key

theorem getByKey_loaded (l : Log) (hinv : Inv l) (_hk : KeysInv l) (key : List UInt8) :
    Loaded l (l.getByKey key).1 := (getByKey_loads l key).loaded hinv

theorem getByKey_keysInv (l : Log) (_hinv : Inv l) (hk : KeysInv l) (key : List UInt8) :
    KeysInv (l.getByKey key).1 := by
  by_cases hp : l.opts.params.keys = true
  · exact (getByKey_loads l key).segP KeysFor hk (fun _ _ => derive_keysFor _ _ _ hp)
  · unfold Log.getByKey
    rw [if_pos hp]
    exact hk

/-- How many more messages the scan takes once `a` are collected: until `mc` are there,
and at least one. -/
def keyLim (mc : Int) (a : Nat) : Nat := (max (mc - a) 1).toNat

theorem keyLim_pos (mc : Int) (a : Nat) : 1 ≤ keyLim mc a := by
  unfold keyLim; omega

theorem keyLim_zero (mc : Int) : ((keyLim mc 0 : Nat) : Int) = max mc 1 := by
  unfold keyLim; omega

theorem keyLim_of_le {mc : Int} {a : Nat} (h : mc ≤ a + 1) : keyLim mc a = 1 := by
  unfold keyLim; omega

theorem keyLim_succ {mc : Int} {a : Nat} (h : ¬ mc ≤ a + 1) :
    keyLim mc a = keyLim mc (a + 1) + 1 := by
  unfold keyLim; omega

theorem withKey_segFrom_cons (m : Msg) (ms : List Msg) (off : Int) (key : List UInt8) :
    Spec.withKey (segFrom (m :: ms) off) key =
      if off ≤ m.off ∧ m.key = key then m :: Spec.withKey (segFrom ms off) key
      else Spec.withKey (segFrom ms off) key := by
  by_cases h1 : off ≤ m.off <;> by_cases h2 : m.key = key <;> simp [Spec.withKey, segFrom, h1, h2]

theorem consumeByKey_go_spec (s : Seg) (key : List UInt8) (off mc : Int) :
    ∀ (ms : List Msg) (ps : List Int) (acc : List Msg), ps.map (readAt s) = ms.map some →
    readerConsumeByKey.go s key off mc ps acc =
      some (acc.reverse ++ (Spec.withKey (segFrom ms off) key).take (keyLim mc acc.length)) := by
  intro ms
  induction ms with
  | nil =>
    intro ps acc h
    rw [List.map_eq_nil_iff.mp h]
    simp [readerConsumeByKey.go.eq_1, Spec.withKey, segFrom]
  | cons m ms ih =>
    intro ps acc h
    obtain ⟨p, ps, rfl, hp, hps⟩ := List.map_eq_cons_iff.mp h
    rw [readerConsumeByKey.go.eq_2, hp, withKey_segFrom_cons]
    by_cases h1 : m.off < off
    · simp only [h1, if_true, Int.not_le.mpr h1, false_and, if_false]
      exact ih ps acc hps
    · simp only [h1, if_false, Int.not_lt.mp h1, true_and]
      by_cases h2 : m.key = key
      · simp only [h2, if_true]
        by_cases h3 : ((m :: acc).length : Int) ≥ mc
        · rw [if_pos h3, keyLim_of_le (by simpa using h3)]
          simp
        · rw [if_neg h3, ih ps (m :: acc) hps, keyLim_succ (a := acc.length) (by simpa using h3)]
          simp
      · simp only [h2, if_false]
        exact ih ps acc hps

theorem readerConsumeByKey_spec (c : RCtx) (s : Seg) (its : List Item) (key : List UInt8)
    (off mc : Int) (hit : ItemsFor s.ver s.recs its) (hk : KeysFor s.recs its)
    (hn : off ≠ offsetNewest) :
    readerConsumeByKey c s its key off mc =
      match ((Spec.withKey (segFrom s.recs off) key).take (keyLim mc 0)).getLast? with
      | some lm => .ok (lm.off + 1, (Spec.withKey (segFrom s.recs off) key).take (keyLim mc 0))
      | none => .ok (c.nextOff, []) := by
  have hc := keys_read hit hk (fnv1a key)
  -- the hash filter of the index and the cursor's filter commute
  have hF : Spec.withKey (segFrom (s.recs.filter (fun m => fnv1a m.key == fnv1a key)) off) key =
      Spec.withKey (segFrom s.recs off) key := by
    rw [← withKey_hash (segFrom s.recs off)]
    unfold segFrom
    rw [List.filter_filter, List.filter_filter]
    simp only [Bool.and_comm]
  rw [← hF]
  generalize s.recs.filter (fun m => fnv1a m.key == fnv1a key) = H at hc
  unfold readerConsumeByKey
  rw [if_neg hn]
  cases hK : Index.keys its (fnv1a key) with
  | error e =>
    rw [hK] at hc
    obtain ⟨rfl, rfl⟩ := hc
    simp [Spec.withKey, segFrom]
  | ok ps =>
    rw [hK] at hc
    dsimp only
    rw [consumeByKey_go_spec s key off mc _ _ [] hc, List.reverse_nil, List.nil_append,
      List.length_nil]
    generalize (Spec.withKey (segFrom H off) key).take (keyLim mc 0) = T
    cases T with
    | nil => rfl
    | cons x xs =>
      dsimp only
      rw [List.getLast?_cons]

/-- The body of `ConsumeByKeyOK` over the remaining messages with the key. -/
def KeyRes (F : List Msg) (next mc : Int) (r : Out (Int × List Msg)) : Prop :=
  match r with
  | .err _ => False
  | .ok (nxt, ms) =>
    ms <+: F ∧ (ms.length : Int) ≤ max mc 1 ∧ (F ≠ [] → ms ≠ []) ∧
    (match ms.getLast? with
     | some lm => nxt = lm.off + 1
     | none => nxt = next)

structure KeyWalkOK (l : Log) (F : List Msg) (next mc : Int) (r : Log × Out (Int × List Msg)) : Prop where
  loaded : Loaded l r.1
  keys : KeysInv r.1
  res : KeyRes F next mc r.2

theorem consumeByKey_go_loads (key : List UInt8) (mc : Int) :
    ∀ (fuel : Nat) (l : Log) (i : Nat) (off : Int),
      Loads l (Log.consumeByKey.go key mc l i off fuel).1 := by
  intro fuel
  induction fuel with
  | zero => intro l i off; rw [Log.consumeByKey.go.eq_1]; exact .refl l
  | succ fuel ih =>
    intro l i off
    rw [Log.consumeByKey.go.eq_2]
    refine Loads.load (.refl l) fun l1 _ _ _ => ?_
    split
    · split
      · exact .refl l1
      · split
        · exact .refl l1
        · exact ih l1 _ _
    · exact .refl l1

theorem consumeByKey_loads (l : Log) (key : List UInt8) (off mc : Int) :
    Loads l (l.consumeByKey key off mc).1 := by
  unfold Log.consumeByKey
  split
  · exact .refl l
  · split
    · exact .refl l
    · exact consumeByKey_go_loads key mc _ l _ _

/-- The walk from segment `i` with a cursor at `off`: the first `max mc 1` messages with
the key in the first segment that has any; caught up (`next`) when none has. -/
theorem consumeByKey_walk (key : List UInt8) (mc : Int) (sh : Shape) :
    ∀ (fuel i : Nat) (l : Log) (off : Int), Inv l → KeysInv l → l.opts.params.keys = true →
    shape l.segs = sh → off ≠ offsetNewest → ∀ (hi : i < sh.length), sh.length - i ≤ fuel →
    KeyRes (Spec.withKey (segFrom (sh[i]).2 off ++ flat (sh.drop (i + 1))) key)
      (shapeNext sh) mc (Log.consumeByKey.go key mc l i off fuel).2 := by
  intro fuel
  induction fuel with
  | zero => intro i l off _ _ _ _ _ hi hf; omega
  | succ fuel ih =>
    intro i l off hinv hk hp hshl hn hi hf
    subst hshl
    have hf1 : (shape l.segs).length - (i + 1) ≤ fuel := by omega
    have hshok : ShapeOK (shape l.segs) := hinv.shape
    have hlen : (shape l.segs).length = l.segs.length := shape_length l.segs
    obtain ⟨l1, s', its, c, hw, hl1, hr⟩ := withIndex_read l hinv i (hlen ▸ hi)
    obtain ⟨hk1, hkf⟩ := withIndex_keys l i hk hp hw
    have hlen1 := hl1.len
    rw [Log.consumeByKey.go.eq_2, hw]
    dsimp only
    rw [readerConsumeByKey_spec c s' its key off mc hr.items hkf hn, withKey_append, ← hr.recs]
    have hlim := keyLim_pos mc 0
    have hlimc := keyLim_zero mc
    cases hT : ((Spec.withKey (segFrom s'.recs off) key).take (keyLim mc 0)).getLast? with
    | some lm =>
      have hne : (Spec.withKey (segFrom s'.recs off) key).take (keyLim mc 0) ≠ [] := by
        intro h; rw [h] at hT; simp at hT
      simp only [hne, ne_eq, not_false_eq_true, if_true]
      unfold KeyRes
      simp only [hT]
      refine ⟨(List.take_prefix _ _).trans (List.prefix_append _ _), ?_, fun _ => hne, trivial⟩
      rw [← hlimc]
      exact Int.ofNat_le.mpr (List.length_take_le _ _)
    | none =>
      rw [(getLast?_take_eq_none hlim).mp hT, List.nil_append]
      simp only [ne_eq, not_true_eq_false, if_false]
      by_cases hlast : i + 1 ≥ l1.segs.length
      · -- the head: caught up
        have hil : i + 1 = (shape l.segs).length :=
          Nat.le_antisymm hi (by rw [hlen, ← hlen1]; exact hlast)
        rw [if_pos hlast]
        unfold KeyRes
        rw [flat_drop_len _ _ (Nat.le_of_eq hil.symm), hr.next hil]
        simp [Spec.withKey]
        exact Int.le_trans (by decide : (0 : Int) ≤ 1) (Int.le_max_right mc 1)
      · -- a reader segment without the key: the next segment, from its oldest offset
        rw [if_neg hlast]
        have hi1 : i + 1 < (shape l.segs).length := by
          rw [hlen, ← hlen1]; exact Nat.not_le.mp hlast
        have hrem : flat ((shape l.segs).drop (i + 1)) =
            segFrom ((shape l.segs)[i + 1]).2 offsetOldest ++ flat ((shape l.segs).drop (i + 1 + 1)) := by
          rw [flat_drop_cons _ _ hi1, segFrom_oldest fun m hm =>
            hshok.rec_nonneg ((seg_sublist_flat _ _ hi1).subset hm)]
        rw [hrem]
        exact ih (i + 1) l1 offsetOldest hl1.inv hk1 (by rw [hl1.opts]; exact hp) hl1.shape
          (by decide) hi1 hf1

theorem consumeByKey_all (l : Log) (hinv : Inv l) (hk : KeysInv l)
    (hp : l.opts.params.keys = true) (key : List UInt8) (off mc : Int) (hn : off ≠ offsetNewest) :
    KeyWalkOK l (Spec.withKey ((abs l).fromOff off) key) (abs l).next mc
      (l.consumeByKey key off mc) := by
  refine ⟨(consumeByKey_loads l key off mc).loaded hinv,
    (consumeByKey_loads l key off mc).segP KeysFor hk (fun _ _ => derive_keysFor _ _ _ hp), ?_⟩
  obtain ⟨i, hsearch, hst⟩ := consume_start hinv.shape hn
  have hlen := shape_length l.segs
  rw [← bases_eq_shape] at hsearch
  unfold Log.consumeByKey
  simp only [hp, not_true_eq_false, if_false]
  rw [hsearch]
  simp only [Int.toNat_natCast]
  rw [show abs l = absShape (shape l.segs) from rfl, fromOff_split hinv.shape hst]
  exact consumeByKey_walk key mc (shape l.segs) (l.segs.length + 1) i l off hinv hk hp rfl hn
    hst.lt (by omega)

theorem consumeByKey_newest (l : Log) (hinv : Inv l) (hp : l.opts.params.keys = true)
    (key : List UInt8) (mc : Int) :
    (l.consumeByKey key offsetNewest mc).2 = .ok ((abs l).next, []) := by
  obtain ⟨n, hn⟩ := segs_length_succ hinv
  obtain ⟨l1, s', its, c, hw, hl1, hr⟩ := withIndex_read l hinv n (hn ▸ Nat.lt_succ_self n)
  have hge : n + 1 ≥ l1.segs.length := by rw [hl1.len, hn]; exact Nat.le_refl _
  unfold Log.consumeByKey
  simp only [hp, not_true_eq_false, if_false]
  rw [consume_newest_seg hinv hn]
  simp only [Int.toNat_natCast]
  rw [Log.consumeByKey.go.eq_2, hw]
  simp only [readerConsumeByKey, if_true, ne_eq, not_true_eq_false, if_false, hge,
    hr.next (by rw [shape_length, hn])]
  rfl

/-- **C09 refinement (ConsumeByKey)**: a non-empty prefix (at most `max mc 1`) of the live
messages at or after `off` with exactly that key, when there are any; otherwise the next
offset; `ErrNoIndex` without the key index. -/
theorem consumeByKey_ok' (l : Log) (hinv : Inv l) (hki : KeysInv' l) (key : List UInt8)
    (off mc : Int) :
    Spec.ConsumeByKeyOK l.opts.params.keys (abs l) key off mc (l.consumeByKey key off mc).2 := by
  by_cases hp : l.opts.params.keys = true
  · rw [hp]
    unfold Spec.ConsumeByKeyOK
    by_cases hn : off = offsetNewest
    · subst hn
      simp [consumeByKey_newest l hinv hp key mc]
    · simp only [not_true_eq_false, hn, if_false]
      split
      · trivial
      · exact (consumeByKey_all l hinv (hki hp) hp key off mc hn).res
  · unfold Spec.ConsumeByKeyOK Log.consumeByKey
    simp [hp]

theorem consumeByKey_ok (l : Log) (hinv : Inv l) (hk : KeysInv l) (key : List UInt8)
    (off : Int) (mc : Int) :
    Spec.ConsumeByKeyOK l.opts.params.keys (abs l) key off mc (l.consumeByKey key off mc).2 :=
  consumeByKey_ok' l hinv (fun _ => hk) key off mc

theorem consumeByKey_loaded (l : Log) (hinv : Inv l) (_hk : KeysInv l) (key : List UInt8)
    (off : Int) (mc : Int) : Loaded l (l.consumeByKey key off mc).1 :=
  (consumeByKey_loads l key off mc).loaded hinv

theorem consumeByKey_keysInv (l : Log) (_hinv : Inv l) (hk : KeysInv l) (key : List UInt8)
    (off : Int) (mc : Int) : KeysInv (l.consumeByKey key off mc).1 := by
  by_cases hp : l.opts.params.keys = true
  · exact (consumeByKey_loads l key off mc).segP KeysFor hk (fun _ _ => derive_keysFor _ _ _ hp)
  · unfold Log.consumeByKey
    rw [if_pos hp]
    exact hk

end Klev

#print axioms Klev.derive_keysFor
#print axioms Klev.withIndex_keys
#print axioms Klev.readerGetByKey_spec
#print axioms Klev.getByKey_ok
#print axioms Klev.getByKey_loaded
#print axioms Klev.getByKey_keysInv
#print axioms Klev.readerConsumeByKey_spec
#print axioms Klev.consumeByKey_ok
#print axioms Klev.consumeByKey_loaded
#print axioms Klev.consumeByKey_keysInv
