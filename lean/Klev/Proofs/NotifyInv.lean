/-
The token invariant of the notifier and its preservation by every event. The barrier is empty
exactly while one thread is in its window: `holders` counts them, and every effect conserves the count.
-/
import Klev.Proofs.NotifyStep

namespace Klev.Notify

theorem get_set_cases {l : List Th} {i k : Nat} {a u : Th} (h : (l.set i a)[k]? = some u) :
    (k = i ∧ u = a) ∨ (k ≠ i ∧ l[k]? = some u) := by
  by_cases hik : i = k
  · subst hik
    have hlt : i < l.length := by simpa using (List.getElem?_eq_some_iff.mp h).1
    rw [List.getElem?_set_self hlt] at h
    exact .inl ⟨rfl, (Option.some.inj h).symm⟩
  · exact .inr ⟨fun e => hik e.symm, (List.getElem?_set_ne hik).symm.trans h⟩

theorem get_lt {l : List Th} {i : Nat} {t : Th} (h : l[i]? = some t) : i < l.length :=
  (List.getElem?_eq_some_iff.mp h).1

theorem get_set_self {l : List Th} {i : Nat} {t a : Th} (h : l[i]? = some t) :
    (l.set i a)[i]? = some a :=
  List.getElem?_set_self (get_lt h)

theorem get_set_ne {l : List Th} {i k : Nat} {a u : Th} (hne : k ≠ i) (h : l[k]? = some u) :
    (l.set i a)[k]? = some u :=
  (List.getElem?_set_ne fun e => hne e.symm).trans h

theorem get_append_left {l : List Th} {a u : Th} {k : Nat} (h : l[k]? = some u) :
    (l ++ [a])[k]? = some u :=
  (List.getElem?_append_left (get_lt h)).trans h

theorem get_append_cases {l : List Th} {a u : Th} {k : Nat} (h : (l ++ [a])[k]? = some u) :
    l[k]? = some u ∨ u = a := by
  rw [List.getElem?_append] at h
  split at h
  · exact .inl h
  · rw [List.getElem?_singleton] at h
    split at h <;> cases h
    exact .inr rfl

/-- Number of threads inside their token window. -/
def holders : List Th → Nat
  | [] => 0
  | t :: ts => (if inWindow t = true then 1 else 0) + holders ts

theorem holders_eq_countP (ths : List Th) : holders ths = ths.countP inWindow := by
  induction ths with
  | nil => rfl
  | cons t ts ih => rw [holders, ih, List.countP_cons, Nat.add_comm]

theorem holders_set {ths : List Th} {i : Nat} {t t' : Th} (h : ths[i]? = some t) :
    holders (ths.set i t') + (if inWindow t = true then 1 else 0)
      = holders ths + (if inWindow t' = true then 1 else 0) := by
  obtain ⟨hlt, rfl⟩ := List.getElem?_eq_some_iff.mp h
  have := List.boole_getElem_le_countP (p := inWindow) hlt
  rw [holders_eq_countP, holders_eq_countP, List.countP_set hlt, Nat.add_right_comm, Nat.sub_add_cancel this]

theorem holders_append (ths : List Th) (t : Th) :
    holders (ths ++ [t]) = holders ths + (if inWindow t = true then 1 else 0) := by
  simp [holders_eq_countP, List.countP_cons]

theorem holders_zero {ths : List Th} (h0 : holders ths = 0) {k : Nat} {u : Th}
    (h : ths[k]? = some u) : inWindow u = false := by
  rw [holders_eq_countP, List.countP_eq_zero] at h0
  exact Bool.eq_false_iff.mpr (h0 u (List.mem_iff_getElem?.mpr ⟨k, h⟩))

theorem inWindow_fresh (k : Kind) : inWindow { kind := k } = false := by
  cases k <;> rfl

/-- `ch` is the current token channel: it sits in the barrier or in the holder's local `b`. -/
def IsCur (s : St) (ths : List Th) (ch : Nat) : Prop :=
  s.barrier = .full ch ∨ ∃ (j : Nat) (u : Th), ths[j]? = some u ∧ inWindow u = true ∧ u.b = some ch

/-- The token invariant, on the components of a configuration. -/
structure TokenInv' (s : St) (ths : List Th) : Prop where
  /-- no send on / close of a closed channel has happened -/
  noPanic : s.panicked = false
  /-- thread-local well-formedness (pc in range, `ok`/`b` coherent, `b < fresh`) -/
  thInv : ∀ (i : Nat) (t : Th), ths[i]? = some t → ThInv s t
  /-- closed channels were allocated -/
  closedLt : ∀ ch, ch ∈ s.closedCh → ch < s.fresh
  /-- barrier full: nobody holds the token; the channel in it is open and allocated -/
  full : ∀ ch, s.barrier = .full ch → holders ths = 0 ∧ ch ∉ s.closedCh ∧ ch < s.fresh
  /-- barrier empty: exactly one holder -/
  empty : s.barrier = .empty → holders ths = 1
  /-- barrier closed: nobody holds the token -/
  closed : s.barrier = .closed → holders ths = 0
  /-- the holder's channel is closed iff the holder is a Set/Close thread past its `closeB` -/
  holder : ∀ (i : Nat) (t : Th), ths[i]? = some t → inWindow t = true →
    ∀ ch, t.b = some ch → (ch ∈ s.closedCh ↔ pastCloseB t = true)
  /-- every channel a thread knows is closed or is the current token channel -/
  cur : ∀ (i : Nat) (t : Th) (ch : Nat), ths[i]? = some t → t.b = some ch →
    ch ∈ s.closedCh ∨ IsCur s ths ch
  /-- no lost wake-up: a waiter that probed `false` either still need not be woken, or its
  channel is closed, or a setter holding that very channel is about to close it -/
  probed : ∀ (i : Nat) (t : Th) (off : Int) (ch : Nat), ths[i]? = some t → PastProbe t off →
    t.b = some ch →
    ch ∈ s.closedCh ∨ s.next ≤ off ∨
      ∃ (j : Nat) (u : Th), ths[j]? = some u ∧ SetterMid u ch

def TokenInv (c : Cfg) : Prop := TokenInv' c.st c.ths

namespace TokenInv'

variable {s : St} {ths : List Th}

theorem count (h : TokenInv' s ths) : holders ths = if s.barrier = .empty then 1 else 0 := by
  cases hb : s.barrier with
  | closed => exact h.closed hb
  | empty => exact h.empty hb
  | full ch => exact (h.full ch hb).1

theorem window_empty (h : TokenInv' s ths) {k : Nat} {u : Th} (hk : ths[k]? = some u)
    (hw : inWindow u = true) : s.barrier = .empty := by
  apply Decidable.byContradiction
  intro hb
  have := holders_zero (h.count.trans (if_neg hb)) hk
  rw [hw] at this
  cases this

theorem exists_holder (h : TokenInv' s ths) (hb : s.barrier = .empty) :
    ∃ (k : Nat) (u : Th), ths[k]? = some u ∧ inWindow u = true := by
  have hpos : 0 < ths.countP inWindow := by
    rw [← holders_eq_countP, h.empty hb]
    exact Nat.one_pos
  obtain ⟨u, hu, hw⟩ := List.countP_pos_iff.mp hpos
  obtain ⟨k, hk⟩ := List.mem_iff_getElem?.mp hu
  exact ⟨k, u, hk, hw⟩

theorem unique (h : TokenInv' s ths) {i j : Nat} {t u : Th} (hi : ths[i]? = some t)
    (hj : ths[j]? = some u) (ht : inWindow t = true) (hu : inWindow u = true) : i = j := by
  -- otherwise putting a thread outside its window in place of `t` leaves `u` counted
  apply Decidable.byContradiction
  intro hne
  have hs := holders_set (t' := { kind := .close }) hi
  rw [ht, inWindow_fresh, if_pos rfl, if_neg Bool.false_ne_true, h.count] at hs
  have h0 : holders (ths.set i { kind := .close }) = 0 := by
    split at hs <;> omega
  have := holders_zero h0 ((List.getElem?_set_ne hne).trans hj)
  rw [hu] at this
  cases this

theorem holder_cur (h : TokenInv' s ths) {i : Nat} {t : Th} (hi : ths[i]? = some t)
    (hw : inWindow t = true) {c : Nat} (hc : IsCur s ths c) : t.b = some c := by
  rcases hc with hc | ⟨j, u, hj, hu, hub⟩
  · rw [h.window_empty hi hw] at hc
    cases hc
  · cases h.unique hj hi hu hw
    cases hj.symm.trans hi
    exact hub

end TokenInv'

section Eff

variable {s s' : St} {t t' : Th}

theorem Eff.frame (he : Eff s t s' t') :
    s.fresh ≤ s'.fresh ∧ (∀ ch, ch ∈ s.closedCh → ch ∈ s'.closedCh) ∧ s'.panicked = s.panicked := by
  cases he with
  | loc _ hcl hfr hpan => exact ⟨hfr ▸ Nat.le_refl _, fun _ h => hcl ▸ h, hpan⟩
  | closeB _ _ hs =>
    subst hs
    exact ⟨Nat.le_refl _, fun _ h => List.mem_cons_of_mem _ h, rfl⟩
  | releaseNew _ _ hs =>
    subst hs
    exact ⟨Nat.le_succ _, fun _ h => h, rfl⟩
  | acquire _ _ hs | release _ _ hs | closeBar _ _ hs =>
    subst hs
    exact ⟨Nat.le_refl _, fun _ h => h, rfl⟩

/-- The token is conserved: it is in the barrier or with the thread. -/
theorem Eff.count (he : Eff s t s' t') :
    (if inWindow t' = true then 1 else 0) + (if s.barrier = .empty then 1 else 0) =
      (if inWindow t = true then 1 else 0) + (if s'.barrier = .empty then 1 else 0) := by
  cases he with
  | loc hbar _ _ _ hw => rw [hw, hbar]
  | closeB _ _ hs hw hw' =>
    subst hs
    rw [hw, hw']
  | acquire _ hbar hs hw hw' | release _ hbar hs hw hw' | releaseNew _ hbar hs hw hw'
  | closeBar _ hbar hs hw hw' =>
    subst hs
    simp [hw, hw', hbar]

theorem Eff.closedCh_eq (he : Eff s t s' t') (hw : inWindow t = false) :
    s'.closedCh = s.closedCh := by
  cases he with
  | loc _ hcl => exact hcl
  | acquire _ _ hs =>
    subst hs
    rfl
  | release _ _ _ hw' | closeB _ _ _ hw' | releaseNew _ _ _ hw' | closeBar _ _ _ hw' =>
    rw [hw] at hw'
    cases hw'

theorem Eff.b_eq (he : Eff s t s' t') :
    t'.b = t.b ∨ ∃ ch, s.barrier = .full ch ∧ t'.b = some ch := by
  cases he with
  | loc _ _ _ _ _ hb => exact .inl hb
  | acquire ch hbar _ _ _ hb' => exact .inr ⟨ch, hbar, hb'⟩
  | release _ _ _ _ _ hb hb' | closeB _ _ _ _ _ hb hb' | releaseNew _ _ _ _ _ hb hb'
  | closeBar _ _ _ _ _ hb hb' => exact .inl (hb'.trans hb.symm)

end Eff

section Update

variable {s s' : St} {ths : List Th} {i : Nat} {t t' : Th}

theorem upd_closedLt (hinv : TokenInv' s ths) (hi : ths[i]? = some t) (he : Eff s t s' t') :
    ∀ ch, ch ∈ s'.closedCh → ch < s'.fresh := by
  intro c hc
  refine Nat.lt_of_lt_of_le ?_ he.frame.1
  cases he with
  | loc _ hcl => exact hinv.closedLt c (hcl ▸ hc)
  | closeB ch _ hs _ _ hb =>
    subst hs
    rcases List.mem_cons.mp hc with rfl | hc
    · exact (hinv.thInv i t hi).blt hb
    · exact hinv.closedLt c hc
  | acquire _ _ hs | release _ _ hs | releaseNew _ _ hs | closeBar _ _ hs =>
    subst hs
    exact hinv.closedLt c hc

theorem upd_full (hinv : TokenInv' s ths) (hi : ths[i]? = some t) (he : Eff s t s' t') :
    ∀ ch, s'.barrier = .full ch → ch ∉ s'.closedCh ∧ ch < s'.fresh := by
  intro c hc
  cases he with
  | loc hbar hcl hfr =>
    rw [hcl, hfr]
    exact (hinv.full c (hbar ▸ hc)).2
  | acquire _ _ hs | closeBar _ _ hs =>
    subst hs
    cases hc
  | closeB _ _ hs hw =>
    subst hs
    cases (hinv.window_empty hi hw).symm.trans hc
  | release ch _ hs hw _ hb _ hp =>
    subst hs
    cases hc
    exact ⟨fun hm => Bool.false_ne_true (hp.symm.trans ((hinv.holder i t hi hw _ hb).mp hm)),
      (hinv.thInv i t hi).blt hb⟩
  | releaseNew _ _ hs =>
    subst hs
    cases hc
    exact ⟨fun hm => Nat.lt_irrefl _ (hinv.closedLt _ hm), Nat.lt_succ_self _⟩

theorem upd_holder (hinv : TokenInv' s ths) (hi : ths[i]? = some t) (he : Eff s t s' t') :
    ∀ (k : Nat) (u : Th), (ths.set i t')[k]? = some u → inWindow u = true →
      ∀ ch, u.b = some ch → (ch ∈ s'.closedCh ↔ pastCloseB u = true) := by
  intro k u hk hu c hc
  rcases get_set_cases hk with ⟨rfl, rfl⟩ | ⟨hne, hk⟩
  · cases he with
    | loc _ hcl _ _ hw hb hp =>
      rw [hcl, hp]
      exact hinv.holder _ t hi (hw ▸ hu) c (hb ▸ hc)
    | acquire ch hbar hs _ _ hb' hp' =>
      subst hs
      cases hb'.symm.trans hc
      rw [hp']
      exact ⟨fun hm => absurd hm (hinv.full c hbar).2.1, nofun⟩
    | closeB ch _ hs _ _ _ hb' hp' =>
      subst hs
      cases hb'.symm.trans hc
      exact ⟨fun _ => hp', fun _ => List.mem_cons_self⟩
    | release _ _ _ _ hw' | releaseNew _ _ _ _ hw' | closeBar _ _ _ _ hw' =>
      rw [hw'] at hu
      cases hu
  · -- another thread holds the token, so `t` does not and closes nothing
    have hw : inWindow t = false :=
      Bool.eq_false_iff.mpr fun hw => hne (hinv.unique hk hi hu hw)
    rw [he.closedCh_eq hw]
    exact hinv.holder k u hk hu c hc

theorem upd_isCur (hinv : TokenInv' s ths) (hi : ths[i]? = some t) (he : Eff s t s' t')
    {c : Nat} (hc : IsCur s ths c) : c ∈ s'.closedCh ∨ IsCur s' (ths.set i t') c := by
  have hself := get_set_self (a := t') hi
  cases he with
  | loc hbar hcl hfr hpan hw hb hp =>
    right
    rcases hc with hc | ⟨j, u, hj, hu, hub⟩
    · left
      rw [hbar]
      exact hc
    · right
      by_cases hji : j = i
      · subst hji
        cases hj.symm.trans hi
        exact ⟨j, t', hself, hw ▸ hu, hb ▸ hub⟩
      · exact ⟨j, u, get_set_ne hji hj, hu, hub⟩
  | acquire ch hbar hs hw hw' hb' hp' =>
    rcases hc with hc | ⟨j, u, hj, hu, hub⟩
    · cases hbar.symm.trans hc
      exact .inr (.inr ⟨i, t', hself, hw', hb'⟩)
    · cases (hinv.window_empty hj hu).symm.trans hbar
  | release ch hbar hs hw hw' hb hb' hp =>
    cases hb.symm.trans (hinv.holder_cur hi hw hc)
    subst hs
    exact .inr (.inl rfl)
  | closeB ch hnc hs hw hw' hb hb' hp' =>
    cases hb.symm.trans (hinv.holder_cur hi hw hc)
    subst hs
    exact .inl List.mem_cons_self
  | releaseNew ch hbar hs hw hw' hb hb' hp | closeBar ch hbar hs hw hw' hb hb' hp =>
    subst hs
    exact .inl ((hinv.holder _ t hi hw c (hinv.holder_cur hi hw hc)).mpr hp)

theorem upd_cur (hinv : TokenInv' s ths) (hi : ths[i]? = some t) (he : Eff s t s' t') :
    ∀ (k : Nat) (u : Th) (ch : Nat), (ths.set i t')[k]? = some u → u.b = some ch →
      ch ∈ s'.closedCh ∨ IsCur s' (ths.set i t') ch := by
  intro k u c hk hc
  have hold : c ∈ s.closedCh ∨ IsCur s ths c := by
    rcases get_set_cases hk with ⟨rfl, rfl⟩ | ⟨hne, hk⟩
    · rcases he.b_eq with hb | ⟨ch, hbar, hb'⟩
      · exact hinv.cur _ t c hi (hb ▸ hc)
      · cases hb'.symm.trans hc
        exact .inr (.inl hbar)
    · exact hinv.cur k u c hk hc
  exact hold.elim (fun h => .inl (he.frame.2.1 c h)) (upd_isCur hinv hi he)

/-- What the no-lost-wakeup part of the invariant needs to know about a thread update. -/
structure ProbeEff (s : St) (t : Th) (s' : St) (t' : Th) : Prop where
  nextChange : s'.next ≠ s.next → inWindow t = true ∧ ∀ ch, t.b = some ch → SetterMid t' ch
  setterMid : ∀ ch, SetterMid t ch → SetterMid t' ch ∨ ch ∈ s'.closedCh
  pastProbe : ∀ off ch, PastProbe t' off → t'.b = some ch →
    (PastProbe t off ∧ t.b = some ch) ∨ s'.next ≤ off

theorem upd_probed_old (hinv : TokenInv' s ths) (hi : ths[i]? = some t) (he : Eff s t s' t')
    (hpe : ProbeEff s t s' t') {k : Nat} {u : Th} {off : Int} {c : Nat}
    (hk : ths[k]? = some u) (hp : PastProbe u off) (hc : u.b = some c) :
    c ∈ s'.closedCh ∨ s'.next ≤ off ∨
      ∃ (j : Nat) (v : Th), (ths.set i t')[j]? = some v ∧ SetterMid v c := by
  have hself := get_set_self (a := t') hi
  rcases hinv.probed k u off c hk hp hc with h | h | ⟨j, v, hj, hv⟩
  · exact Or.inl (he.frame.2.1 c h)
  · by_cases hn : s'.next = s.next
    · right
      left
      rw [hn]
      exact h
    · obtain ⟨hw, hmid⟩ := hpe.nextChange hn
      -- the stepping thread holds the token, so `u`'s channel is closed or is its channel
      exact (hinv.cur k u c hk hc).elim (fun hcl => .inl (he.frame.2.1 c hcl))
        fun hcur => .inr (.inr ⟨i, t', hself, hmid c (hinv.holder_cur hi hw hcur)⟩)
  · by_cases hji : j = i
    · subst hji
      cases hj.symm.trans hi
      exact (hpe.setterMid c hv).elim (fun h => .inr (.inr ⟨j, t', hself, h⟩)) .inl
    · exact Or.inr (Or.inr ⟨j, v, get_set_ne hji hj, hv⟩)

theorem upd_probed (hinv : TokenInv' s ths) (hi : ths[i]? = some t) (he : Eff s t s' t')
    (hpe : ProbeEff s t s' t') :
    ∀ (k : Nat) (u : Th) (off : Int) (ch : Nat), (ths.set i t')[k]? = some u → PastProbe u off →
      u.b = some ch →
      ch ∈ s'.closedCh ∨ s'.next ≤ off ∨
        ∃ (j : Nat) (v : Th), (ths.set i t')[j]? = some v ∧ SetterMid v ch := by
  intro k u off c hk hp hc
  rcases get_set_cases hk with ⟨rfl, rfl⟩ | ⟨hne, hk⟩
  · rcases hpe.pastProbe off c hp hc with ⟨hp', hc'⟩ | h
    · exact upd_probed_old hinv hi he hpe hi hp' hc'
    · exact Or.inr (Or.inl h)
  · exact upd_probed_old hinv hi he hpe hk hp hc

/-- Preservation of the invariant by any thread update satisfying the effect summaries. -/
theorem TokenInv'.update (hinv : TokenInv' s ths) (hi : ths[i]? = some t) (he : Eff s t s' t')
    (hth : ThInv s' t') (hpe : ProbeEff s t s' t') : TokenInv' s' (ths.set i t') := by
  have hc : holders (ths.set i t') = if s'.barrier = .empty then 1 else 0 := by
    have := holders_set (t' := t') hi
    have := he.count
    have := hinv.count
    omega
  refine ⟨he.frame.2.2.trans hinv.noPanic, ?_, upd_closedLt hinv hi he,
    fun ch hb => ⟨by rw [hc, hb]; rfl, upd_full hinv hi he ch hb⟩, fun hb => by rw [hc, hb]; rfl,
    fun hb => by rw [hc, hb]; rfl, upd_holder hinv hi he, upd_cur hinv hi he,
    upd_probed hinv hi he hpe⟩
  intro k u hk
  rcases get_set_cases hk with ⟨rfl, rfl⟩ | ⟨hne, hk⟩
  · exact hth
  · exact (hinv.thInv k u hk).mono he.frame.1

end Update

theorem TokenInv'.step {s s' : St} {ths : List Th} {i : Nat} {t t' : Th} (hinv : TokenInv' s ths)
    (hi : ths[i]? = some t) (hst : stepTh s t = some (s', t')) : TokenInv' s' (ths.set i t') := by
  have hS := stepTh_spec hst
  have hti := hinv.thInv i t hi
  have he : Eff s t s' t' :=
    hS.eff hti (fun hw => ⟨hinv.window_empty hi hw, hinv.holder i t hi hw⟩)
  have hth : ThInv s' t' := hS.thInv hti (fun ch hb => (hinv.full ch hb).2.2)
  exact hinv.update hi he hth
    ⟨hS.next_change hti, fun ch hm => (hS.setterMid_progress hti hm).imp_left And.left,
      fun off ch hp hb => hS.pastProbe hp hb⟩

theorem TokenInv'.cancel {s : St} {ths : List Th} {i : Nat} {t : Th} (hinv : TokenInv' s ths)
    (hi : ths[i]? = some t) : TokenInv' s (ths.set i { t with ctxDone := true }) := by
  have he : Eff s t s { t with ctxDone := true } := Eff.loc rfl rfl rfl rfl rfl rfl rfl
  exact hinv.update hi he (hinv.thInv i t hi).cancel
    ⟨fun h => absurd rfl h, fun ch hm => Or.inl hm, fun off ch hp hb => Or.inl ⟨hp, hb⟩⟩

theorem TokenInv'.spawn {s : St} {ths : List Th} (hinv : TokenInv' s ths) (k : Kind) :
    TokenInv' s (ths ++ [{ kind := k }]) := by
  have hcnt : holders (ths ++ [{ kind := k }]) = holders ths := by
    rw [holders_append, inWindow_fresh]
    rfl
  have hcur : ∀ ch, IsCur s ths ch → IsCur s (ths ++ [{ kind := k }]) ch :=
    fun ch h => h.imp_right fun ⟨j, u, hj, hu, hub⟩ => ⟨j, u, get_append_left hj, hu, hub⟩
  -- the new thread has `b = none` and is outside its window
  refine ⟨hinv.noPanic, ?_, hinv.closedLt, hcnt ▸ hinv.full, hcnt ▸ hinv.empty,
    hcnt ▸ hinv.closed, ?_, ?_, ?_⟩
  · intro j u hj
    rcases get_append_cases hj with hj | rfl
    · exact hinv.thInv j u hj
    · exact ThInv.fresh s k
  · intro j u hj hu
    rcases get_append_cases hj with hj | rfl
    · exact hinv.holder j u hj hu
    · cases (inWindow_fresh k).symm.trans hu
  · intro j u ch hj hb
    rcases get_append_cases hj with hj | rfl
    · exact (hinv.cur j u ch hj hb).imp_right (hcur ch)
    · cases hb
  · intro j u off ch hj hp hb
    rcases get_append_cases hj with hj | rfl
    · exact (hinv.probed j u off ch hj hp hb).imp_right
        (Or.imp_right fun ⟨j', v, hj', hv⟩ => ⟨j', v, get_append_left hj', hv⟩)
    · cases hb

/-- Initial configuration: `next = n`, barrier holds channel 0, no threads. -/
def init (n : Int) : Cfg := ⟨initSt n, []⟩

theorem tokenInv_init (n : Int) : TokenInv (init n) where
  noPanic := rfl
  thInv _ _ h := nomatch h
  closedLt := List.forall_mem_nil _
  full _ h := by
    cases h
    exact ⟨rfl, List.not_mem_nil, Nat.one_pos⟩
  empty h := nomatch h
  closed h := nomatch h
  holder _ _ h := nomatch h
  cur _ _ _ h := nomatch h
  probed _ _ _ _ h := nomatch h

theorem stepCfg_step_some {c : Cfg} {i : Nat} {t t' : Th} {s' : St} (hi : c.ths[i]? = some t)
    (hst : stepTh c.st t = some (s', t')) :
    stepCfg c (.step i) = ⟨s', c.ths.set i t'⟩ := by
  simp only [stepCfg, hi, hst]

theorem stepCfg_spawn (c : Cfg) (k : Kind) :
    stepCfg c (.spawn k) = ⟨c.st, c.ths ++ [{ kind := k }]⟩ := rfl

theorem stepCfg_ind {motive : Cfg → Prop} (c : Cfg) (e : Ev) (same : motive c)
    (step : ∀ i t s' t', e = .step i → c.ths[i]? = some t → stepTh c.st t = some (s', t') →
      motive ⟨s', c.ths.set i t'⟩)
    (cancel : ∀ i t, e = .cancel i → c.ths[i]? = some t →
      motive ⟨c.st, c.ths.set i { t with ctxDone := true }⟩)
    (spawn : ∀ k, e = .spawn k → motive ⟨c.st, c.ths ++ [{ kind := k }]⟩) :
    motive (stepCfg c e) := by
  cases e with
  | step i =>
    cases hi : c.ths[i]? with
    | none => simpa only [stepCfg, hi] using same
    | some t =>
      cases hst : stepTh c.st t with
      | none => simpa only [stepCfg, hi, hst] using same
      | some p => simpa only [stepCfg, hi, hst] using step i t p.1 p.2 rfl hi hst
  | cancel i =>
    cases hi : c.ths[i]? with
    | none => simpa only [stepCfg, hi] using same
    | some t => simpa only [stepCfg, hi] using cancel i t rfl hi
  | spawn k => exact spawn k rfl

theorem tokenInv_step (c : Cfg) (e : Ev) (h : TokenInv c) : TokenInv (stepCfg c e) :=
  stepCfg_ind c e h (fun _ _ _ _ _ hi hst => TokenInv'.step h hi hst)
    (fun _ _ _ hi => TokenInv'.cancel h hi) (fun k _ => TokenInv'.spawn h k)

theorem tokenInv_run_from (c : Cfg) (evs : List Ev) (h : TokenInv c) : TokenInv (run c evs) := by
  induction evs generalizing c with
  | nil => exact h
  | cons e rest ih => exact ih _ (tokenInv_step c e h)

theorem tokenInv_run (n : Int) (evs : List Ev) : TokenInv (run (init n) evs) :=
  tokenInv_run_from _ _ (tokenInv_init n)

end Klev.Notify
