/-
The bridge between `Klev/HeadRead.lean` and the model of `reader.ConsumeByKey`
(`Klev/Model.lean`): the model function, given the next offset of one state of the head (its
reader context) and the records / index of a later one, *is* the two-look read `nextFirst`.
So the theorems about `nextFirst` are theorems about the modelled function.
-/
import Klev.Proofs.KeyOK
import Klev.Proofs.HeadReadProofs
namespace Klev.HeadRead
open Klev

/-- `reader.ConsumeByKey` of the model with the context's next offset taken in state `a` and the
segment (records, consistent index) of state `b`. -/
theorem readerConsumeByKey_two_looks (c : RCtx) (s : Seg) (its : List Item) (key : List UInt8)
    (off mc : Int) (hit : ItemsFor s.ver s.recs its) (hk : KeysFor s.recs its)
    (hn : off ≠ offsetNewest) (bnext : Int) :
    readerConsumeByKey c s its key off mc =
      .ok (nextFirst ⟨[], c.nextOff⟩ ⟨s.recs, bnext⟩ key off (keyLim mc 0)) := by
  rw [readerConsumeByKey_spec c s its key off mc hit hk hn]
  unfold nextFirst answer
  rw [show pick s.recs key off (keyLim mc 0) = (Spec.withKey (segFrom s.recs off) key).take (keyLim mc 0) from
    pick_eq ⟨s.recs, bnext⟩ key off _]
  cases ((Spec.withKey (segFrom s.recs off) key).take (keyLim mc 0)).getLast? <;> rfl

#print axioms readerConsumeByKey_two_looks
end Klev.HeadRead
