/-
Reads only load indexes (`Loads`): they keep the invariant and the shape, hence the L0 state,
and every predicate on segments that a load keeps.
-/
import Klev.Proofs.ConsumeOK
namespace Klev

/-- Every segment after `withIndex` is an old one or an old one with its index loaded. -/
theorem withIndex_forall (Q : Seg → Prop) (l : Log) (i : Nat)
    (hcl : ∀ s, Q s → Q (loadIndex l.opts s).1) (hQ : ∀ s ∈ l.segs, Q s)
    {l1 : Log} {s' : Seg} {its : List Item} {c : RCtx}
    (hw : withIndex l i = some (l1, s', its, c)) :
    (∀ s ∈ l1.segs, Q s) ∧ l1.opts = l.opts := by
  obtain ⟨s, hs, rfl, rfl, _⟩ := withIndex_some hw
  refine ⟨fun t ht => ?_, rfl⟩
  rcases List.mem_or_eq_of_mem_set ht with h | rfl
  · exact hQ t h
  · exact hcl s (hQ s (List.mem_of_getElem? hs))

/-- `l'` is `l` after a sequence of `withIndex` loads: all that a read does to the log. -/
inductive Loads : Log → Log → Prop
  | refl (l : Log) : Loads l l
  | step {l l1 l2 : Log} {s : Seg} {its : List Item} {c : RCtx} (i : Nat)
      (hw : withIndex l i = some (l1, s, its, c)) (h : Loads l1 l2) : Loads l l2

theorem Loads.forall (Q : Seg → Prop) (o : Opts) (hcl : ∀ s, Q s → Q (loadIndex o s).1)
    {l l' : Log} (h : Loads l l') : l.opts = o → (∀ s ∈ l.segs, Q s) →
    (∀ s ∈ l'.segs, Q s) ∧ l'.opts = o := by
  induction h with
  | refl l => intro ho hQ; exact ⟨hQ, ho⟩
  | step i hw _ ih =>
    intro ho hQ
    obtain ⟨hQ1, ho1⟩ := withIndex_forall Q _ i (by rw [ho]; exact hcl) hQ hw
    exact ih (ho1.trans ho) hQ1

theorem Loads.opts {l l' : Log} (h : Loads l l') : l'.opts = l.opts :=
  (h.forall (fun _ => True) l.opts (fun _ _ => trivial) rfl (fun _ _ => trivial)).2

theorem Loads.loaded {l l' : Log} (h : Loads l l') : Inv l → Loaded l l' := by
  induction h with
  | refl l => exact Loaded.refl
  | step i hw _ ih => exact fun hinv =>
      (withIndex_loaded hw hinv).trans (ih (withIndex_loaded hw hinv).inv)

/-- The one way a read touches the log: load an index, then go on with the new log. -/
theorem Loads.load {β : Type} {l : Log} {i : Nat} {e : Log × β}
    {k : Log → Seg → List Item → RCtx → Log × β} (he : Loads l e.1)
    (hk : ∀ l1 s its c, Loads l1 (k l1 s its c).1) :
    Loads l (match withIndex l i with
      | none => e
      | some (l1, s, its, c) => k l1 s its c).1 := by
  cases hw : withIndex l i with
  | none => exact he
  | some r => exact .step i hw (hk _ _ _ _)

theorem consume_loads (l : Log) (off : Int) (mc : Nat) : Loads l (l.consume off mc).1 := by
  unfold Log.consume
  split
  · exact .refl l
  · refine Loads.load (.refl l) fun l1 _ _ _ => ?_
    split
    · split
      · exact Loads.load (.refl l1) fun l2 _ _ _ => .refl l2
      · exact .refl l1
    · exact .refl l1

theorem get_loads (l : Log) (off : Int) : Loads l (l.get off).1 := by
  unfold Log.get
  split
  · exact .refl l
  · exact .refl l
  · exact .refl l
  · refine Loads.load (.refl l) fun l1 _ _ _ => ?_
    split
    · split <;> exact .refl l1
    · split
      · exact Loads.load (.refl l1) fun l2 _ _ _ => .refl l2
      · exact .refl l1
    · exact .refl l1

theorem consume_loaded (l : Log) (hinv : Inv l) (off : Int) (mc : Nat) :
    Loaded l (l.consume off mc).1 := (consume_loads l off mc).loaded hinv

/-- Consume changes neither the invariant nor the L0 state. -/
theorem consume_inv (l : Log) (hinv : Inv l) (off : Int) (mc : Nat) :
    Inv (l.consume off mc).1 ∧ abs (l.consume off mc).1 = abs l :=
  ⟨(consume_loaded l hinv off mc).inv, (consume_loaded l hinv off mc).abs⟩

/-- Loads keep an extra index predicate that the indexes rebuilt from the segments' records
satisfy (a load changes neither the records nor the version of a segment). -/
theorem Loads.segP (P : List Msg → List Item → Prop) {l l' : Log} (h : Loads l l')
    (hP : ∀ s ∈ l.segs, SegP P s)
    (hd : ∀ s ∈ l.segs, P s.recs (derive l.opts.params s.ver s.recs)) :
    ∀ s ∈ l'.segs, SegP P s := by
  intro s hs
  refine ((h.forall (fun s => SegP P s ∧ P s.recs (derive l.opts.params s.ver s.recs)) l.opts
    ?_ rfl (fun s hs => ⟨hP s hs, hd s hs⟩)).1 s hs).1
  intro s ⟨h1, h2⟩
  obtain ⟨_, hr, hv⟩ := loadIndex_base_recs l.opts s
  rw [hr, hv]
  exact ⟨(loadIndex_P P l.opts s h2 h1).2, h2⟩

theorem withIndex_P (P : List Msg → List Item → Prop) (l : Log) (i : Nat)
    (hP : ∀ s ∈ l.segs, SegP P s)
    (hd : ∀ s ∈ l.segs, P s.recs (derive l.opts.params s.ver s.recs))
    {l1 : Log} {s' : Seg} {its : List Item} {c : RCtx}
    (hw : withIndex l i = some (l1, s', its, c)) :
    (∀ s ∈ l1.segs, SegP P s) ∧ P s'.recs its := by
  obtain ⟨s, hs, _, rfl, rfl⟩ := withIndex_some hw
  have hmem : s ∈ l.segs := List.mem_of_getElem? hs
  rw [(loadIndex_base_recs l.opts s).2.1]
  exact ⟨(Loads.step i hw (.refl _)).segP P hP hd,
    (loadIndex_P P l.opts s (hd s hmem) (hP s hmem)).1⟩

end Klev
