/-
`Log.publish` keeps the invariant and appends exactly the stamped batch to the L0 state
(with rollover at any size) — the step theorem behind C01 and C02.
-/
import Klev.Proofs.GetOK
namespace Klev

def SegShapeOK (br : Int × List Msg) : Prop :=
  br.2.Pairwise (fun a b => a.off < b.off) ∧ (∀ m ∈ br.2, br.1 ≤ m.off) ∧ 0 ≤ br.1

def ShapeR (s t : Int × List Msg) : Prop := s.1 < t.1 ∧ ∀ m ∈ s.2, m.off < t.1

theorem shapeOK_iff (sh : Shape) : ShapeOK sh ↔
    sh ≠ [] ∧ (∀ br ∈ sh, SegShapeOK br) ∧ sh.Pairwise ShapeR ∧ ∀ br ∈ sh.dropLast, br.2 ≠ [] :=
  ⟨fun h => ⟨h.ne, fun br hb => ⟨h.sorted br hb, h.lower br hb, h.base0 br hb⟩, h.order, h.nonempty⟩,
   fun ⟨h1, h2, h3, h4⟩ => ⟨h1, fun br hb => (h2 br hb).1, fun br hb => (h2 br hb).2.1, h3, h4,
     fun br hb => (h2 br hb).2.2⟩⟩

theorem shapeOK_append_iff (A B : Shape) (hB : B ≠ []) :
    ShapeOK (A ++ B) ↔
      (∀ br ∈ A, SegShapeOK br ∧ br.2 ≠ []) ∧ A.Pairwise ShapeR ∧ (∀ a ∈ A, ∀ b ∈ B, ShapeR a b) ∧
      ShapeOK B := by
  rw [shapeOK_iff, shapeOK_iff B, List.pairwise_append, List.dropLast_append_of_ne_nil hB]
  constructor
  · rintro ⟨_, hS, ⟨hpA, hpB, hx⟩, hN⟩
    exact ⟨fun br h => ⟨hS br (List.mem_append_left _ h), hN br (List.mem_append_left _ h)⟩, hpA, hx, hB,
      fun br h => hS br (List.mem_append_right _ h), hpB, fun br h => hN br (List.mem_append_right _ h)⟩
  · rintro ⟨hA, hpA, hx, _, hS, hpB, hN⟩
    exact ⟨List.append_ne_nil_of_right_ne_nil _ hB,
      fun br h => (List.mem_append.mp h).elim (fun h => (hA br h).1) (hS br), ⟨hpA, hpB, hx⟩,
      fun br h => (List.mem_append.mp h).elim (fun h => (hA br h).2) (hN br)⟩

theorem shapeOK_singleton (br : Int × List Msg) : ShapeOK [br] ↔ SegShapeOK br := by
  constructor
  · intro h
    have hm : br ∈ [br] := List.mem_singleton.mpr rfl
    exact ⟨h.sorted br hm, h.lower br hm, h.base0 br hm⟩
  · intro h
    refine ⟨List.cons_ne_nil _ _, fun x hx => ?_, fun x hx => ?_, List.pairwise_singleton _ _,
      fun x hx => (nomatch hx), fun x hx => ?_⟩
    · rw [List.mem_singleton.mp hx]; exact h.1
    · rw [List.mem_singleton.mp hx]; exact h.2.1
    · rw [List.mem_singleton.mp hx]; exact h.2.2

theorem shapeOK_snoc_iff (pre : Shape) (last : Int × List Msg) :
    ShapeOK (pre ++ [last]) ↔
      (∀ br ∈ pre, SegShapeOK br ∧ br.2 ≠ []) ∧ pre.Pairwise ShapeR ∧ (∀ br ∈ pre, ShapeR br last) ∧
      SegShapeOK last := by
  rw [shapeOK_append_iff pre [last] (List.cons_ne_nil _ _), shapeOK_singleton]
  simp only [List.mem_singleton, forall_eq]

theorem shape_snoc (sh : Shape) (hne : sh ≠ []) : sh = sh.dropLast ++ [sh.getLast hne] :=
  (List.dropLast_concat_getLast hne).symm

theorem eq_dropLast_concat {α : Type} {l : List α} {x : α} (h : l.getLast? = some x) :
    l = l.dropLast ++ [x] := by
  have hne : l ≠ [] := by intro he; rw [he] at h; cases h
  rw [List.getLast?_eq_some_getLast hne, Option.some.injEq] at h
  rw [← h, List.dropLast_concat_getLast hne]

theorem shapeNext_snoc (pre : Shape) (last : Int × List Msg) :
    shapeNext (pre ++ [last]) = recsNext last.1 last.2 := by
  unfold shapeNext
  simp

theorem flat_snoc (pre : Shape) (last : Int × List Msg) : flat (pre ++ [last]) = flat pre ++ last.2 := by
  unfold flat; simp [List.flatMap_append]

theorem shapeOK_snoc_empty {sh : Shape} (h : ShapeOK sh)
    (hlast : ∀ br, sh.getLast? = some br → br.2 ≠ []) : ShapeOK (sh ++ [(shapeNext sh, [])]) := by
  have hne : ∀ br ∈ sh, br.2 ≠ [] := by
    intro br hbr
    have hl := List.getLast?_eq_some_getLast h.ne
    rw [eq_dropLast_concat hl] at hbr
    rcases List.mem_append.mp hbr with h1 | h1
    · exact h.nonempty br h1
    · rw [List.mem_singleton.mp h1]; exact hlast _ hl
  rw [shapeOK_snoc_iff]
  refine ⟨fun br hbr => ⟨⟨h.sorted br hbr, h.lower br hbr, h.base0 br hbr⟩, hne br hbr⟩, h.order,
    fun br hbr => ?_, ⟨List.Pairwise.nil, fun m hm => (by cases hm), h.next_nonneg⟩⟩
  have hlt : ∀ m ∈ br.2, m.off < shapeNext sh := fun m hm =>
    h.lt_next (List.mem_flatMap.mpr ⟨br, hbr, hm⟩)
  obtain ⟨m0, hm0⟩ := List.exists_mem_of_ne_nil _ (hne br hbr)
  exact ⟨Int.lt_of_le_of_lt (h.lower br hbr m0 hm0) (hlt m0 hm0), hlt⟩

theorem recsNext_append (base : Int) (recs ms : List Msg) :
    recsNext base (recs ++ ms) = recsNext (recsNext base recs) ms := by
  unfold recsNext
  rw [List.getLast?_append]
  cases ms.getLast? <;> rfl

theorem shapeOK_snoc_append {pre : Shape} {b : Int} {recs ms : List Msg}
    (h : ShapeOK (pre ++ [(b, recs)])) (hs : ms.Pairwise (fun a c => a.off < c.off))
    (hge : ∀ m ∈ ms, recsNext b recs ≤ m.off) : ShapeOK (pre ++ [(b, recs ++ ms)]) := by
  rw [shapeOK_snoc_iff] at h ⊢
  obtain ⟨hpre, hpw, hr, hlast⟩ := h
  refine ⟨hpre, hpw, fun br hbr => ⟨(hr br hbr).1, (hr br hbr).2⟩, ?_, fun m hm => ?_, hlast.2.2⟩
  · rw [List.pairwise_append]
    exact ⟨hlast.1, hs, fun a ha c hc => Int.lt_of_lt_of_le (recsNext_gt b recs hlast.1 a ha) (hge c hc)⟩
  · rcases List.mem_append.mp hm with h1 | h1
    · exact hlast.2.1 m h1
    · exact Int.le_trans (recsNext_ge b recs hlast.2.1) (hge m h1)

theorem stamp_eq (p : Params) (v : Ver) : ∀ (batch : List (Int × List UInt8 × List UInt8)) (off pos ts : Int),
    stamp p v off pos ts batch =
      (Spec.stampSpec off batch, deriveFrom p ts (layoutFrom v pos (Spec.stampSpec off batch))) := by
  intro batch
  induction batch with
  | nil => intro _ _ _; rfl
  | cons b rest ih =>
    intro off pos ts
    obtain ⟨t, k, vl⟩ := b
    simp only [stamp, Spec.stampSpec, layoutFrom, deriveFrom]
    rw [ih]

theorem stamp_fst (p : Params) (v : Ver) (batch : List (Int × List UInt8 × List UInt8)) (off pos ts : Int) :
    (stamp p v off pos ts batch).1 = Spec.stampSpec off batch := by
  rw [stamp_eq]

theorem stamp_items (p : Params) (v : Ver) (batch : List (Int × List UInt8 × List UInt8)) (off pos ts : Int) :
    ((stamp p v off pos ts batch).2).map (fun it => (it.off, it.pos)) =
      (layoutFrom v pos (Spec.stampSpec off batch)).map (fun pm => (pm.2.off, pm.1)) := by
  rw [stamp_eq]
  exact deriveFrom_itemsFor p ts _

theorem stamp_offs (p : Params) (v : Ver) (batch : List (Int × List UInt8 × List UInt8)) (off pos ts : Int) :
    (stamp p v off pos ts batch).2.map (·.off) = (Spec.stampSpec off batch).map (·.off) := by
  have h := congrArg (List.map Prod.fst) (stamp_items p v batch off pos ts)
  rw [List.map_map, List.map_map] at h
  rw [← layoutFrom_map_snd v pos (Spec.stampSpec off batch), List.map_map]
  exact h

theorem stampSpec_length : ∀ (batch : List (Int × List UInt8 × List UInt8)) (off : Int),
    (Spec.stampSpec off batch).length = batch.length := by
  intro batch
  induction batch with
  | nil => intro _; rfl
  | cons b rest ih => intro off; obtain ⟨t, k, vl⟩ := b; simp [Spec.stampSpec, ih]

theorem stampSpec_bounds : ∀ (batch : List (Int × List UInt8 × List UInt8)) (off : Int),
    ∀ m ∈ Spec.stampSpec off batch, off ≤ m.off ∧ m.off < off + batch.length := by
  intro batch
  induction batch with
  | nil => intro _ m h; cases h
  | cons b rest ih =>
    intro off m h
    obtain ⟨t, k, vl⟩ := b
    simp only [Spec.stampSpec, List.mem_cons] at h
    simp only [List.length_cons]
    rcases h with rfl | h
    · refine ⟨Int.le_refl _, ?_⟩
      show off < off + (↑rest.length + 1)
      omega
    · have := ih (off + 1) m h
      omega

theorem stampSpec_sorted : ∀ (batch : List (Int × List UInt8 × List UInt8)) (off : Int),
    (Spec.stampSpec off batch).Pairwise (fun a b => a.off < b.off) := by
  intro batch
  induction batch with
  | nil => intro _; simp [Spec.stampSpec]
  | cons b rest ih =>
    intro off
    obtain ⟨t, k, vl⟩ := b
    simp only [Spec.stampSpec, List.pairwise_cons]
    refine ⟨?_, ih _⟩
    intro m hm
    exact Int.lt_of_add_one_le (stampSpec_bounds rest (off + 1) m hm).1

theorem recsNext_stampSpec : ∀ (batch : List (Int × List UInt8 × List UInt8)) (n : Int),
    recsNext n (Spec.stampSpec n batch) = n + batch.length := by
  intro batch
  induction batch with
  | nil => intro n; exact (Int.add_zero n).symm
  | cons b rest ih =>
    intro n
    obtain ⟨t, k, vl⟩ := b
    rw [Spec.stampSpec, ← List.singleton_append, recsNext_append, List.length_cons]
    show recsNext (n + 1) (Spec.stampSpec (n + 1) rest) = _
    rw [ih]
    omega

theorem lastOffTs_stamp (p : Params) (v : Ver) (batch : List (Int × List UInt8 × List UInt8))
    (n pos ts nt : Int) : (lastOffTs (stamp p v n pos ts batch).2 n nt).1 = n + batch.length := by
  have h := congrArg List.getLast? (stamp_offs p v batch n pos ts)
  rw [List.getLast?_map, List.getLast?_map] at h
  rw [← recsNext_stampSpec batch n]
  unfold lastOffTs recsNext
  cases hi : (stamp p v n pos ts batch).2.getLast? with
  | none =>
    rw [hi] at h
    cases hm : (Spec.stampSpec n batch).getLast? with
    | none => rfl
    | some m => rw [hm] at h; cases h
  | some it =>
    rw [hi] at h
    cases hm : (Spec.stampSpec n batch).getLast? with
    | none => rw [hm] at h; cases h
    | some m => rw [hm] at h; exact congrArg (· + 1) (Option.some.inj h)

theorem itemsFor_append {v : Ver} {recs ms : List Msg} {old its : List Item}
    (h : ItemsFor v recs old)
    (h2 : its.map (fun it => (it.off, it.pos)) =
      (layoutFrom v (logSize v recs) ms).map (fun pm => (pm.2.off, pm.1))) :
    ItemsFor v (recs ++ ms) (old ++ its) := by
  unfold ItemsFor layout at *
  rw [layoutFrom_append, List.map_append, List.map_append, h, h2]
  rfl

theorem segs_snoc {l : Log} {h : Seg} (hl : l.segs.getLast? = some h) :
    l.segs = l.segs.dropLast ++ [h] := eq_dropLast_concat hl

theorem shape_append (a b : List Seg) : shape (a ++ b) = shape a ++ shape b := by
  simp [shape]

theorem shape_segs_snoc {l : Log} {h : Seg} (hl : l.segs.getLast? = some h) :
    shape l.segs = shape l.segs.dropLast ++ [(h.base, h.recs)] := by
  conv => lhs; rw [segs_snoc hl]
  rw [shape_append]
  rfl

theorem disk_snoc {l : Log} {h : Seg} (hl : l.segs.getLast? = some h) :
    l.disk = l.segs.dropLast.map Seg.toDisk ++ [h.toDisk] := by
  unfold Log.disk
  conv => lhs; rw [segs_snoc hl]
  rw [List.map_append]
  rfl

theorem inv_getLast (l : Log) (hinv : Inv l) : ∃ h, l.segs.getLast? = some h :=
  ⟨_, List.getLast?_eq_some_getLast hinv.segs_ne⟩

theorem abs_snoc {l : Log} {h : Seg} (hl : l.segs.getLast? = some h) :
    abs l = ⟨flat (shape l.segs.dropLast) ++ h.recs, recsNext h.base h.recs⟩ := by
  show (⟨flat (shape l.segs), shapeNext (shape l.segs)⟩ : Spec) = _
  rw [shape_segs_snoc hl, shapeNext_snoc, flat_snoc]

theorem Inv.wNextOff_eq {l : Log} (hinv : Inv l) (hro : l.opts.readonly = false) {h : Seg}
    (hl : l.segs.getLast? = some h) : l.wNextOff = recsNext h.base h.recs := by
  rw [hinv.next hro, shape_segs_snoc hl, shapeNext_snoc]

theorem inv_snoc {o : Opts} {pre : List Seg} {h : Seg} {nOff nTime : Int}
    (hsh : ShapeOK (shape pre ++ [(h.base, h.recs)])) (hpre : ∀ s ∈ pre, IdxOK s) (hidx : IdxOK h)
    (hhead : HeadOK h) (hn : nOff = recsNext h.base h.recs) : Inv ⟨o, pre ++ [h], nOff, nTime⟩ := by
  have hs : shape (pre ++ [h]) = shape pre ++ [(h.base, h.recs)] := by rw [shape_append]; rfl
  refine ⟨by rw [hs]; exact hsh, fun s hs' => ?_, fun _ => ?_, fun _ h' hh' => ?_⟩
  · rcases List.mem_append.mp hs' with h1 | h1
    · exact hpre s h1
    · rw [List.mem_singleton.mp h1]; exact hidx
  · show nOff = shapeNext (shape (pre ++ [h]))
    rw [hs, shapeNext_snoc]; exact hn
  · have hh' : (pre ++ [h]).getLast? = some h' := hh'
    rw [List.getLast?_concat] at hh'
    rw [← Option.some.inj hh']; exact hhead

/-- The fresh empty head `openWriter` creates at `base`. -/
def freshSeg (o : Opts) (base : Int) : Seg :=
  ⟨base, o.nsv, [], some ⟨o.nsv, []⟩, some []⟩

theorem openWriter_fresh (o : Opts) (base nt : Int) :
    openWriter o (emptySeg base) nt = (freshSeg o base, base, nt) := by
  simp [openWriter, emptySeg, lastOffOr, freshSeg]

theorem freshSeg_idxOK (o : Opts) (b : Int) : IdxOK (freshSeg o b) :=
  ⟨fun its hi => by rw [← Option.some.inj hi]; rfl, fun f hf => by rw [← Option.some.inj hf]; rfl⟩

theorem derive_length (p : Params) (v : Ver) (recs : List Msg) : (derive p v recs).length = recs.length :=
  (derive_itemsFor p v recs).length

theorem itemsFor_nil_iff (v : Ver) (its : List Item) : ItemsFor v [] its ↔ its = [] := by
  constructor
  · intro h
    have := h.length
    simp only [List.length_nil] at this
    exact List.eq_nil_of_length_eq_zero this
  · intro h; subst h; rfl

/-- On an empty log nothing is read (an index file with items is kept as it is); otherwise the
index file is read, or rebuilt when it is missing or has no items. -/
theorem openWriter_out (o : Opts) (s : Seg) (nt : Int) :
    ∃ v its f, openWriter o s nt =
        (⟨s.base, v, s.recs, some f, some its⟩, lastOffOr its s.base, (lastOffTs its s.base nt).2) ∧
      (s.recs = [] ∧ v = (if s.ver = .v1 then o.nsv else s.ver) ∧ its = [] ∧
         (f = ⟨o.nsv, []⟩ ∨ s.idxf = some f) ∨
       s.recs ≠ [] ∧ v = s.ver ∧ f.items = its ∧
         (s.idxf = some f ∧ needsReindex s = false ∨
          needsReindex s = true ∧ f = ⟨o.nsv, derive o.params s.ver s.recs⟩)) := by
  obtain ⟨b, v, recs, idxf, mem⟩ := s
  cases recs with
  | nil =>
    refine ⟨if v = .v1 then o.nsv else v, [], ?_⟩
    cases idxf with
    -- once the version is known `openWriter` evaluates: each equation below holds by `rfl`
    | none => exact ⟨⟨o.nsv, []⟩, by cases v <;> rfl, Or.inl ⟨rfl, rfl, rfl, Or.inl rfl⟩⟩
    | some f =>
      obtain ⟨fv, fi⟩ := f
      cases fi with
      | nil =>
        cases fv with
        | v1 => exact ⟨⟨o.nsv, []⟩, by cases v <;> rfl, Or.inl ⟨rfl, rfl, rfl, Or.inl rfl⟩⟩
        | v2 => exact ⟨⟨.v2, []⟩, by cases v <;> rfl, Or.inl ⟨rfl, rfl, rfl, Or.inr rfl⟩⟩
      | cons a as => exact ⟨⟨fv, a :: as⟩, by cases v <;> cases fv <;> rfl, Or.inl ⟨rfl, rfl, rfl, Or.inr rfl⟩⟩
  | cons m ms =>
    have hne : m :: ms ≠ [] := List.cons_ne_nil _ _
    -- a rebuilt index is not empty, so `index.OpenWriter` keeps the file it finds
    have hder : derive o.params v (m :: ms) ≠ [] := fun he =>
      hne (List.eq_nil_of_length_eq_zero (by rw [← derive_length o.params v, he]; rfl))
    by_cases hre : needsReindex ⟨b, v, m :: ms, idxf, mem⟩ = true
    · refine ⟨v, derive o.params v (m :: ms), ⟨o.nsv, derive o.params v (m :: ms)⟩, ?_,
        Or.inr ⟨hne, rfl, rfl, Or.inr ⟨hre, rfl⟩⟩⟩
      cases hd : derive o.params v (m :: ms) with
      | nil => exact absurd hd hder
      | cons a as => simp [openWriter, reindexAndRead, hre, hd, rebuiltIdxVer]; rfl
    · cases idxf with
      | none => exact absurd rfl hre
      | some f =>
        obtain ⟨fv, fi⟩ := f
        cases fi with
        | nil => exact absurd rfl hre
        | cons a as =>
          exact ⟨v, a :: as, ⟨fv, a :: as⟩, by cases fv <;> rfl, Or.inr ⟨hne, rfl, rfl, Or.inl ⟨rfl, rfl⟩⟩⟩

theorem openWriter_spec (o : Opts) (s : Seg) (nt : Int) (h : IdxOK s) :
    let r := openWriter o s nt
    r.1.base = s.base ∧ r.1.recs = s.recs ∧ IdxOK r.1 ∧ HeadOK r.1 ∧
    r.2.1 = recsNext s.base s.recs := by
  obtain ⟨v, its, f, hr, hc⟩ := openWriter_out o s nt
  have hits : ItemsFor v s.recs its ∧ f.items = its := by
    rcases hc with ⟨hre, _, hi, hf⟩ | ⟨_, hv, hfi, hf⟩
    · rw [hre, hi]
      refine ⟨rfl, ?_⟩
      rcases hf with hf | hf
      · rw [hf]
      · have := h.idx f hf
        rw [hre] at this
        exact (itemsFor_nil_iff _ _).mp this
    · rw [hv]
      refine ⟨?_, hfi⟩
      rcases hf with ⟨hf, _⟩ | ⟨_, hf⟩
      · rw [← hfi]; exact h.idx f hf
      · rw [← hfi, hf]; exact derive_itemsFor _ _ _
  intro r
  rw [show r = _ from hr]
  exact ⟨rfl, rfl,
    ⟨fun its' hi => by rw [← Option.some.inj hi]; exact hits.1,
     fun f' hf' => by rw [← Option.some.inj hf', hits.2]; exact hits.1⟩,
    ⟨its, rfl, f, rfl, hits.2⟩, lastOffOr_eq hits.1 _⟩

theorem openWriter_base_recs (o : Opts) (s : Seg) (nt : Int) :
    (openWriter o s nt).1.base = s.base ∧ (openWriter o s nt).1.recs = s.recs := by
  obtain ⟨v, its, f, hr, _⟩ := openWriter_out o s nt
  rw [hr]
  exact ⟨rfl, rfl⟩

theorem openWriter_time (o : Opts) (s : Seg) (nt : Int) :
    ∃ its, (openWriter o s nt).1.mem = some its ∧
      (openWriter o s nt).2.2 = (lastOffTs its s.base nt).2 := by
  obtain ⟨v, its, f, hr, _⟩ := openWriter_out o s nt
  exact ⟨its, by rw [hr], by rw [hr]⟩

theorem needsRollover_recs {o : Opts} {h : Seg} (hr : needsRollover o h = true) : h.recs ≠ [] := by
  intro he
  rw [needsRollover, he] at hr
  simp at hr

theorem rollover_of_needs {l : Log} {h : Seg} (hl : l.segs.getLast? = some h)
    (hr : needsRollover l.opts h = true) :
    l.rollover = { l with segs := l.segs ++ [freshSeg l.opts l.wNextOff] } := by
  unfold Log.rollover
  rw [hl]
  simp only [hr, if_true, openWriter_fresh]
  conv => rhs; rw [segs_snoc hl]
  simp

theorem rollover_of_not {l : Log} {h : Seg} (hl : l.segs.getLast? = some h)
    (hr : needsRollover l.opts h = false) : l.rollover = l := by
  unfold Log.rollover
  rw [hl]
  simp only [hr, Bool.false_eq_true, if_false]

theorem rollover_facts (l : Log) :
    l.rollover.opts = l.opts ∧ l.rollover.wNextOff = l.wNextOff ∧
    l.rollover.wNextTime = l.wNextTime ∧
    (l.rollover.segs = l.segs ∨ l.rollover.segs = l.segs ++ [freshSeg l.opts l.wNextOff]) := by
  cases hl : l.segs.getLast? with
  | none =>
    have : l.rollover = l := by unfold Log.rollover; rw [hl]
    rw [this]; exact ⟨rfl, rfl, rfl, Or.inl rfl⟩
  | some h =>
    cases hr : needsRollover l.opts h with
    | true => rw [rollover_of_needs hl hr]; exact ⟨rfl, rfl, rfl, Or.inr rfl⟩
    | false => rw [rollover_of_not hl hr]; exact ⟨rfl, rfl, rfl, Or.inl rfl⟩

theorem rollover_spec (l : Log) (hinv : Inv l) (hro : l.opts.readonly = false) :
    Inv l.rollover ∧ abs l.rollover = abs l ∧ l.rollover.opts = l.opts := by
  obtain ⟨h, hl⟩ := inv_getLast l hinv
  cases hr : needsRollover l.opts h with
  | false => rw [rollover_of_not hl hr]; exact ⟨hinv, rfl, rfl⟩
  | true =>
    rw [rollover_of_needs hl hr]
    have hlast : ∀ br, (shape l.segs).getLast? = some br → br.2 ≠ [] := by
      intro br hbr
      rw [shape_segs_snoc hl, List.getLast?_concat] at hbr
      rw [← Option.some.inj hbr]
      exact needsRollover_recs hr
    have hn := hinv.next hro
    have hsh := shapeOK_snoc_empty hinv.shape hlast
    rw [← hn] at hsh
    refine ⟨inv_snoc hsh hinv.idx (freshSeg_idxOK _ _) ⟨[], rfl, _, rfl, rfl⟩ rfl, ?_, rfl⟩
    show absShape (shape (l.segs ++ [freshSeg l.opts l.wNextOff])) = absShape (shape l.segs)
    rw [shape_append]
    show (⟨flat (shape l.segs ++ [(l.wNextOff, [])]), shapeNext (shape l.segs ++ [(l.wNextOff, [])])⟩ :
      Spec) = ⟨flat (shape l.segs), shapeNext (shape l.segs)⟩
    rw [flat_snoc, shapeNext_snoc, List.append_nil, ← hn]
    rfl

def appendHead (h : Seg) (st : List Msg × List Item) : Seg :=
  { h with
    recs := h.recs ++ st.1,
    idxf := h.idxf.map (fun f => { f with items := f.items ++ st.2 }),
    mem := h.mem.map (· ++ st.2) }

theorem append_none (l : Log) (hl : l.segs.getLast? = none)
    (b : List (Int × List UInt8 × List UInt8)) : (l.append b).1 = l := by
  unfold Log.append; rw [hl]

theorem append_eq {l : Log} {h : Seg} (hl : l.segs.getLast? = some h)
    (b : List (Int × List UInt8 × List UInt8)) :
    l.append b =
      (⟨l.opts, l.segs.dropLast ++
          [appendHead h (stamp l.opts.params h.ver l.wNextOff (logSize h.ver h.recs) l.wNextTime b)],
        (lastOffTs (stamp l.opts.params h.ver l.wNextOff (logSize h.ver h.recs) l.wNextTime b).2
          l.wNextOff l.wNextTime).1,
        (lastOffTs (stamp l.opts.params h.ver l.wNextOff (logSize h.ver h.recs) l.wNextTime b).2
          l.wNextOff l.wNextTime).2⟩,
       .ok (lastOffTs (stamp l.opts.params h.ver l.wNextOff (logSize h.ver h.recs) l.wNextTime b).2
          l.wNextOff l.wNextTime).1) := by
  unfold Log.append; rw [hl]; rfl

theorem append_some (l : Log) (h : Seg) (hl : l.segs.getLast? = some h)
    (b : List (Int × List UInt8 × List UInt8)) :
    (l.append b).1.opts = l.opts ∧
    (l.append b).1.segs = l.segs.dropLast ++
      [appendHead h (stamp l.opts.params h.ver l.wNextOff (logSize h.ver h.recs) l.wNextTime b)] ∧
    (l.append b).1.wNextTime =
      (lastOffTs (stamp l.opts.params h.ver l.wNextOff (logSize h.ver h.recs) l.wNextTime b).2
        l.wNextOff l.wNextTime).2 := by
  rw [append_eq hl]
  exact ⟨rfl, rfl, rfl⟩

theorem append_forall (Q : Seg → Prop) (l : Log) (b : List (Int × List UInt8 × List UInt8))
    (hQ : ∀ s ∈ l.segs, Q s)
    (hh : ∀ h, l.segs.getLast? = some h →
      Q (appendHead h (stamp l.opts.params h.ver l.wNextOff (logSize h.ver h.recs) l.wNextTime b))) :
    ∀ s ∈ (l.append b).1.segs, Q s := by
  cases hl : l.segs.getLast? with
  | none => rw [append_none l hl]; exact hQ
  | some h =>
    intro s hs
    rw [(append_some l h hl b).2.1] at hs
    rcases List.mem_append.mp hs with h1 | h1
    · exact hQ s (List.dropLast_subset _ h1)
    · simp only [List.mem_singleton] at h1
      subst h1
      exact hh h hl

theorem publish_readonly {l : Log} (hro : l.opts.readonly = true)
    (b : List (Int × List UInt8 × List UInt8)) : l.publish b = (l, .err .readonly) :=
  if_pos hro

theorem publish_eq {l : Log} (hrw : l.opts.readonly = false) (b : List (Int × List UInt8 × List UInt8)) :
    l.publish b = l.rollover.append b :=
  if_neg (by rw [hrw]; exact Bool.false_ne_true)

theorem publish_opts (l : Log) (b : List (Int × List UInt8 × List UInt8)) :
    (l.publish b).1.opts = l.opts := by
  cases hro : l.opts.readonly with
  | true => rw [publish_readonly hro]
  | false =>
    rw [publish_eq hro]
    cases hl : l.rollover.segs.getLast? with
    | none => rw [append_none _ hl]; exact (rollover_facts l).1
    | some h => rw [(append_some _ h hl b).1]; exact (rollover_facts l).1

theorem publish_forall (Q : Seg → Prop) (l : Log) (b : List (Int × List UInt8 × List UInt8))
    (hQ : ∀ s ∈ l.segs, Q s) (hfresh : Q (freshSeg l.opts l.wNextOff))
    (hh : l.opts.readonly = false → ∀ h, l.rollover.segs.getLast? = some h → Q h →
      Q (appendHead h (stamp l.opts.params h.ver l.wNextOff (logSize h.ver h.recs) l.wNextTime b))) :
    ∀ s ∈ (l.publish b).1.segs, Q s := by
  cases hro : l.opts.readonly with
  | true => rw [publish_readonly hro]; exact hQ
  | false =>
    rw [publish_eq hro]
    obtain ⟨ho, hoff, htime, hsegs⟩ := rollover_facts l
    have h1 : ∀ s ∈ l.rollover.segs, Q s := by
      rcases hsegs with h | h <;> rw [h]
      · exact hQ
      · intro s hs
        rcases List.mem_append.mp hs with h1 | h1
        · exact hQ s h1
        · rw [List.mem_singleton.mp h1]; exact hfresh
    refine append_forall Q l.rollover b h1 fun h hl => ?_
    rw [ho, hoff, htime]
    exact hh hro h hl (h1 h (List.mem_of_getLast? hl))

theorem append_spec (l : Log) (hinv : Inv l) (hro : l.opts.readonly = false)
    (batch : List (Int × List UInt8 × List UInt8)) :
    Inv (l.append batch).1 ∧
    (l.append batch).2 = .ok ((abs l).next + batch.length) ∧
    abs (l.append batch).1 =
      ⟨(abs l).live ++ Spec.stampSpec (abs l).next batch, (abs l).next + batch.length⟩ := by
  obtain ⟨h, hl⟩ := inv_getLast l hinv
  have hs := shape_segs_snoc hl
  have habs := abs_snoc hl
  have hnext := hinv.wNextOff_eq hro hl
  have hanext : (abs l).next = l.wNextOff := by rw [habs, hnext]
  obtain ⟨its0, hm0, f0, hf0, hfi0⟩ := (hinv.head hro h hl).loaded
  have hit := (hinv.idx h (List.mem_of_getLast? hl)).mem its0 hm0
  rw [append_eq hl, hanext]
  have hfst := stamp_fst l.opts.params h.ver batch l.wNextOff (logSize h.ver h.recs) l.wNextTime
  have hitems := stamp_items l.opts.params h.ver batch l.wNextOff (logSize h.ver h.recs) l.wNextTime
  have hnx := lastOffTs_stamp l.opts.params h.ver batch l.wNextOff (logSize h.ver h.recs)
    l.wNextTime l.wNextTime
  generalize stamp l.opts.params h.ver l.wNextOff (logSize h.ver h.recs) l.wNextTime batch = st
    at hfst hitems hnx ⊢
  have hrecs : (appendHead h st).recs = h.recs ++ Spec.stampSpec l.wNextOff batch := by
    rw [← hfst]
    rfl
  have hnn : recsNext h.base (h.recs ++ Spec.stampSpec l.wNextOff batch) = l.wNextOff + batch.length := by
    rw [recsNext_append, ← hnext, recsNext_stampSpec]
  have hitem : ItemsFor h.ver (appendHead h st).recs (its0 ++ st.2) := by
    rw [hrecs]
    exact itemsFor_append hit hitems
  refine ⟨inv_snoc ?_ (fun s hs' => hinv.idx s (List.dropLast_subset _ hs')) ⟨?_, ?_⟩
    ⟨its0 ++ st.2, by simp [appendHead, hm0], ⟨f0.ver, f0.items ++ st.2⟩, by simp [appendHead, hf0],
      by simp [hfi0]⟩ (by rw [hnx, hrecs]; exact hnn.symm), by rw [hnx], ?_⟩
  · show ShapeOK (shape l.segs.dropLast ++ [(h.base, (appendHead h st).recs)])
    rw [hrecs]
    refine shapeOK_snoc_append (by rw [← hs]; exact hinv.shape) (stampSpec_sorted batch _) ?_
    rw [← hnext]
    exact fun m hm => (stampSpec_bounds batch _ m hm).1
  · intro its hi
    have hi : h.mem.map (· ++ st.2) = some its := hi
    rw [hm0] at hi
    rw [← Option.some.inj hi]
    exact hitem
  · intro f hf
    have hf : h.idxf.map (fun f => { f with items := f.items ++ st.2 }) = some f := hf
    rw [hf0] at hf
    rw [← Option.some.inj hf]
    show ItemsFor h.ver (appendHead h st).recs (f0.items ++ st.2)
    rw [hfi0]
    exact hitem
  · rw [abs_snoc (List.getLast?_concat ..), habs]
    show (⟨_ ++ (appendHead h st).recs, recsNext h.base (appendHead h st).recs⟩ : Spec) = _
    rw [List.dropLast_concat, hrecs, hnn, List.append_assoc]

theorem publish_rw (l : Log) (hinv : Inv l) (hro : l.opts.readonly = false)
    (batch : List (Int × List UInt8 × List UInt8)) :
    Inv (l.publish batch).1 ∧
    (l.publish batch).2 = .ok ((abs l).next + batch.length) ∧
    abs (l.publish batch).1 =
      ⟨(abs l).live ++ Spec.stampSpec (abs l).next batch, (abs l).next + batch.length⟩ := by
  obtain ⟨hinv1, habs1, hopts1⟩ := rollover_spec l hinv hro
  have := append_spec l.rollover hinv1 (by rw [hopts1]; exact hro) batch
  rwa [habs1, ← publish_eq hro] at this

/-- **Publish step**: the invariant is kept; the result and the new L0 state are what
`PublishOK` says (offsets `next … next+n-1` in order, returns `next + n`, also for the empty batch and across a rollover at any size). -/
theorem publish_step (l : Log) (hinv : Inv l) (batch : List (Int × List UInt8 × List UInt8)) :
    Inv (l.publish batch).1 ∧
    Spec.PublishOK l.opts.readonly (abs l) batch (l.publish batch).2 (abs (l.publish batch).1) := by
  unfold Spec.PublishOK
  cases hro : l.opts.readonly with
  | true => rw [publish_readonly hro, if_pos rfl]; exact ⟨hinv, rfl, rfl⟩
  | false =>
    obtain ⟨h1, h2, h3⟩ := publish_rw l hinv hro batch
    rw [if_neg Bool.false_ne_true, h3]
    exact ⟨h1, h2, rfl, rfl⟩

end Klev
