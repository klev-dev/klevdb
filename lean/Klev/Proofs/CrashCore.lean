/-
What the crash, loss and backup proofs share (C05, C06, C20): directories whose head index
file may be anything (Open with Recover rebuilds it: `open_recover_spec`), and file-system
steps on a directory with distinct bases. The rule behind every crash argument is "index
last" (`bracket_states`).
-/
import Klev.Crash
import Klev.Proofs.Open
namespace Klev.Crash
open Klev

/-- A directory that is clean except, possibly, for the index file of its last segment. -/
structure DiskOKH (d : List SegDisk) : Prop where
  shape : ShapeOK (shapeD d)
  idx : ∀ sd ∈ d.dropLast, Exact sd

theorem diskOK_toH {d : List SegDisk} (h : DiskOK d) : DiskOKH d :=
  ⟨h.shape, fun sd hsd => h.idx sd (List.dropLast_subset d hsd)⟩

theorem diskOK_iff (d : List SegDisk) : DiskOK d ↔ ShapeOK (shapeD d) ∧ ∀ sd ∈ d, Exact sd :=
  ⟨fun h => ⟨h.shape, h.idx⟩, fun h => ⟨h.1, h.2⟩⟩

theorem mapLast_snoc {α : Type} (f : α → α) : ∀ (pre : List α) (x : α), mapLast f (pre ++ [x]) = pre ++ [f x] :=
  mapLast_concat f

theorem snoc_of_ne {α : Type} {d : List α} (h : d ≠ []) : ∃ pre x, d = pre ++ [x] :=
  ⟨d.dropLast, d.getLast h, (List.dropLast_concat_getLast h).symm⟩

theorem DiskOKH.snoc {d : List SegDisk} (h : DiskOKH d) : ∃ pre x, d = pre ++ [x] :=
  snoc_of_ne (fun he => h.shape.ne (by rw [he]; rfl))

theorem DiskOKH.head {pre : List SegDisk} {x : SegDisk} (h : DiskOKH (pre ++ [x])) (y : SegDisk)
    (hsh : ShapeOK (shapeD (pre ++ [y]))) : DiskOKH (pre ++ [y]) :=
  ⟨hsh, fun sd hsd => h.idx sd (by rwa [List.dropLast_concat] at hsd ⊢)⟩

theorem open_recover_spec (d : List SegDisk) (hd : DiskOKH d) (oo : OpenOpts)
    (hrec : oo.recover = true) (hro : oo.opts.readonly = false) :
    ∃ l', Log.open d oo = .ok l' ∧ Inv l' ∧ abs l' = absDisk d := by
  obtain ⟨pre, x, rfl⟩ := hd.snoc
  obtain ⟨l', hl'⟩ := (open_rw_ok_iff pre x oo hro).mpr (fun h => h.1 hrec)
  refine ⟨l', hl', ?_⟩
  -- Recover makes the directory clean before anything else looks at it
  have hdir : DiskOK (openDir oo (pre ++ [x])) ∧ absDisk (openDir oo (pre ++ [x])) = absDisk (pre ++ [x]) := by
    obtain ⟨h1, h2⟩ := recover_ok _ hd.shape hd.idx oo.opts.params
    unfold openDir
    simp only [hrec, if_true]
    split
    · have := migrate_ok _ h1 oo.opts.params oo.opts.nsv oo.opts.nsv
      exact ⟨this.1, this.2.trans h2⟩
    · exact ⟨h1, h2⟩
  rcases open_ok hl' with ⟨h, _⟩ | ⟨_, pre', hd', hc, rfl⟩
  · rw [hro] at h; cases h
  · rcases hc with ⟨he, _⟩ | ⟨_, hod⟩
    · cases (List.append_eq_nil_iff.mp he).2
    · rw [hod] at hdir
      exact ⟨(openedRW_spec _ pre' hd' hdir.1).1, (openedRW_spec _ pre' hd' hdir.1).2.trans hdir.2⟩

theorem applySteps_append (d : List SegDisk) (a b : List FsStep) :
    applySteps d (a ++ b) = applySteps (applySteps d a) b := List.foldl_append

theorem applySteps_nil (d : List SegDisk) : applySteps d [] = d := rfl

theorem applySteps_cons (d : List SegDisk) (a : FsStep) (b : List FsStep) :
    applySteps d (a :: b) = applySteps (applyStep d a) b := rfl

theorem crash_append (d : List SegDisk) (A B : List FsStep) (k : Nat) :
    (∃ k', applySteps d ((A ++ B).take k) = applySteps d (A.take k')) ∨
    (∃ k', applySteps d ((A ++ B).take k) = applySteps (applySteps d A) (B.take k')) := by
  rcases Nat.le_total k A.length with h | h
  · exact Or.inl ⟨k, by rw [List.take_append_of_le_length h]⟩
  · exact Or.inr ⟨k - A.length, by rw [List.take_append, List.take_of_length_le h, applySteps_append]⟩

theorem insertSeg_split (n : SegDisk) : ∀ (A B : List SegDisk), (∀ s ∈ A, s.base ≤ n.base) →
    (∀ s ∈ B, n.base < s.base) → insertSeg n (A ++ B) = A ++ n :: B := by
  intro A
  induction A with
  | nil =>
    intro B _ hB
    cases B with
    | nil => rfl
    | cons y ys =>
      simp only [List.nil_append, insertSeg]
      rw [if_pos (hB y List.mem_cons_self)]
  | cons a as ih =>
    intro B hA hB
    have ha : ¬ n.base < a.base := Int.not_lt.mpr (hA a List.mem_cons_self)
    simp only [List.cons_append, insertSeg]
    rw [if_neg ha, ih B (fun s hs => hA s (List.mem_cons_of_mem _ hs)) hB]

theorem insertSeg_last (n : SegDisk) (d : List SegDisk) (h : ∀ s ∈ d, s.base < n.base) :
    insertSeg n d = d ++ [n] := by
  have := insertSeg_split n d [] (fun s hs => Int.le_of_lt (h s hs)) (List.forall_mem_nil _)
  rwa [List.append_nil] at this

theorem removeSeg_mid (b : Int) (PRE POST : List SegDisk) (x : SegDisk)
    (hx : x.base = b) (hpre : ∀ s ∈ PRE, s.base ≠ b) (hpost : ∀ s ∈ POST, s.base ≠ b) :
    applyStep (PRE ++ x :: POST) (.removeSeg b) = PRE ++ POST := by
  have hkeep : ∀ A : List SegDisk, (∀ s ∈ A, s.base ≠ b) → A.filter (fun s => s.base ≠ b) = A :=
    fun A h => List.filter_eq_self.mpr (fun a ha => by simpa using h a ha)
  show (PRE ++ x :: POST).filter _ = _
  rw [List.filter_append, List.filter_cons, hkeep PRE hpre, hkeep POST hpost]
  simp [hx]

theorem shapeD_append (a b : List SegDisk) : shapeD (a ++ b) = shapeD a ++ shapeD b := by
  simp [shapeD]

theorem bases_increasing {d : List SegDisk} (h : ShapeOK (shapeD d)) :
    d.Pairwise (fun s t => s.base < t.base) := by
  have ho := h.order
  unfold shapeD at ho
  rw [List.pairwise_map] at ho
  exact ho.imp (fun h => h.1)

theorem base_inj {d : List SegDisk} (hd : d.Pairwise (fun a b => a.base ≠ b.base)) {s t : SegDisk}
    (hs : s ∈ d) (ht : t ∈ d) (hb : s.base = t.base) : s = t := by
  induction d with
  | nil => cases hs
  | cons y ys ih =>
    rw [List.pairwise_cons] at hd
    rcases List.mem_cons.mp hs with h1 | h1 <;> rcases List.mem_cons.mp ht with h2 | h2
    · rw [h1, h2]
    · subst h1; exact absurd hb (hd.1 t h2)
    · subst h2; exact absurd hb.symm (hd.1 s h1)
    · exact ih hd.2 h1 h2

theorem split_order (PRE POST : List SegDisk) (x : SegDisk) (h : ShapeOK (shapeD (PRE ++ x :: POST))) :
    (∀ s ∈ PRE, s.base < x.base) ∧ (∀ s ∈ POST, x.base < s.base) := by
  have ho := bases_increasing h
  rw [List.pairwise_append, List.pairwise_cons] at ho
  exact ⟨fun s hs => ho.2.2 s hs x List.mem_cons_self, ho.2.1.1⟩

/-- The base of the segment a step rewrites files of (none for steps that add or remove
segments or append to the head). -/
def stepOn : FsStep → Option Int
  | .removeIdx b => some b
  | .putLog b _ _ => some b
  | .putIdx b _ => some b
  | _ => none

def segStep (s : SegDisk) : FsStep → SegDisk
  | .removeIdx b => if s.base = b then { s with idxf := none } else s
  | .putLog b v r => if s.base = b then { s with ver := v, recs := r } else s
  | .putIdx b f => if s.base = b then { s with idxf := some f } else s
  | _ => s

def segRun (s : SegDisk) (steps : List FsStep) : SegDisk := steps.foldl segStep s

theorem segRun_nil (s : SegDisk) : segRun s [] = s := rfl

theorem segRun_cons (s : SegDisk) (st : FsStep) (rest : List FsStep) :
    segRun s (st :: rest) = segRun (segStep s st) rest := rfl

theorem segRun_putIdx (b : Int) (v : Ver) (r : List Msg) (f : IdxFile) :
    segRun ⟨b, v, r, none⟩ [.putIdx b f] = ⟨b, v, r, some f⟩ := if_pos rfl

theorem applyStep_map (d : List SegDisk) (st : FsStep) (b : Int) (h : stepOn st = some b) :
    applyStep d st = d.map (fun s => segStep s st) := by
  cases st <;> simp [stepOn] at h <;> rfl

theorem applySteps_map (steps : List FsStep) (h : ∀ st ∈ steps, ∃ b, stepOn st = some b)
    (d : List SegDisk) : applySteps d steps = d.map (fun s => segRun s steps) := by
  induction steps generalizing d with
  | nil => simp [applySteps, segRun]
  | cons st rest ih =>
    obtain ⟨b, hb⟩ := h st List.mem_cons_self
    rw [applySteps_cons, applyStep_map d st b hb,
      ih (fun st' h' => h st' (List.mem_cons_of_mem _ h')), List.map_map]
    rfl

theorem segStep_base (s : SegDisk) (st : FsStep) : (segStep s st).base = s.base := by
  cases st <;> dsimp only [segStep] <;> (try split) <;> rfl

theorem segRun_base (steps : List FsStep) (s : SegDisk) : (segRun s steps).base = s.base := by
  induction steps generalizing s with
  | nil => rfl
  | cons st rest ih => rw [segRun_cons, ih, segStep_base]

theorem segStep_ne (s : SegDisk) (st : FsStep) (b : Int) (h : stepOn st = some b) (hb : s.base ≠ b) :
    segStep s st = s := by
  cases st <;> cases h <;> exact if_neg hb

theorem segRun_ne (P : List FsStep) (b : Int) (hP : ∀ st ∈ P, stepOn st = some b) (s : SegDisk) (h : s.base ≠ b) :
    segRun s P = s := by
  induction P with
  | nil => rfl
  | cons st rest ih =>
    rw [segRun_cons, segStep_ne s st b (hP st List.mem_cons_self) h]
    exact ih (fun st' h' => hP st' (List.mem_cons_of_mem _ h'))

theorem applySteps_mid (P : List FsStep) (PRE POST : List SegDisk) (x : SegDisk)
    (hP : ∀ st ∈ P, stepOn st = some x.base)
    (hpre : ∀ s ∈ PRE, s.base ≠ x.base) (hpost : ∀ s ∈ POST, s.base ≠ x.base) :
    applySteps (PRE ++ x :: POST) P = PRE ++ segRun x P :: POST := by
  rw [applySteps_map P (fun st h => ⟨_, hP st h⟩), List.map_append, List.map_cons,
    List.map_congr_left (fun s hs => segRun_ne P _ hP s (hpre s hs)),
    List.map_congr_left (fun s hs => segRun_ne P _ hP s (hpost s hs)), List.map_id', List.map_id']

theorem applySteps_flatMap (f : SegDisk → List FsStep) (hf : ∀ s, ∀ st ∈ f s, stepOn st = some s.base) :
    ∀ (B A : List SegDisk), ((A ++ B).map (·.base)).Pairwise (· ≠ ·) →
      applySteps (A ++ B) (B.flatMap f) = A ++ B.map (fun s => segRun s (f s)) := by
  intro B
  induction B with
  | nil => intro A _; simp [applySteps]
  | cons y B' ih =>
    intro A hd
    have hd' := hd
    rw [List.map_append, List.map_cons, List.pairwise_append, List.pairwise_cons] at hd'
    rw [List.flatMap_cons, applySteps_append, applySteps_mid (f y) A B' y (hf y)
      (fun s hs e => hd'.2.2 _ (List.mem_map.mpr ⟨s, hs, rfl⟩) _ List.mem_cons_self e)
      (fun s hs e => hd'.2.1.1 _ (List.mem_map.mpr ⟨s, hs, rfl⟩) e.symm)]
    have := ih (A ++ [segRun y (f y)]) (by simpa [segRun_base] using hd)
    simpa using this

/-- `Segment.Remove` of `x`: index, then log. -/
theorem drop_final (PRE POST : List SegDisk) (x : SegDisk) (hpre : ∀ s ∈ PRE, s.base ≠ x.base)
    (hpost : ∀ s ∈ POST, s.base ≠ x.base) :
    applySteps (PRE ++ x :: POST) [.removeIdx x.base, .removeSeg x.base] = PRE ++ POST := by
  show applyStep (applySteps (PRE ++ x :: POST) [.removeIdx x.base]) (.removeSeg x.base) = _
  rw [applySteps_mid [.removeIdx x.base] PRE POST x (fun st h => by rw [List.mem_singleton.mp h]; rfl) hpre hpost]
  exact removeSeg_mid _ PRE POST _ (segRun_base _ x) hpre hpost

/-- `Segment.Rename` to a base behind `x` (log, then index), then `Segment.Remove` of `x`. -/
theorem move_final (PRE POST : List SegDisk) (x : SegDisk) (nb : Int) (v : Ver) (r : List Msg) (f : IdxFile)
    (hpre : ∀ s ∈ PRE, s.base < x.base) (hlt : x.base < nb) (hpost : ∀ s ∈ POST, nb < s.base) :
    applySteps (PRE ++ x :: POST) [.addSeg nb v r, .putIdx nb f, .removeIdx x.base, .removeSeg x.base] =
      PRE ++ ⟨nb, v, r, some f⟩ :: POST := by
  have hPx : ∀ s ∈ PRE ++ [x], s.base < nb := by
    intro s hs
    rcases List.mem_append.mp hs with h | h
    · exact Int.lt_trans (hpre s h) hlt
    · rw [List.mem_singleton.mp h]; exact hlt
  show applySteps (applySteps (insertSeg ⟨nb, v, r, none⟩ (PRE ++ x :: POST)) [.putIdx nb f]) _ = _
  rw [List.append_cons PRE x POST,
    insertSeg_split ⟨nb, v, r, none⟩ (PRE ++ [x]) POST (fun s hs => Int.le_of_lt (hPx s hs)) hpost,
    applySteps_mid [.putIdx nb f] (PRE ++ [x]) POST ⟨nb, v, r, none⟩ (fun st h => by rw [List.mem_singleton.mp h]; rfl)
      (fun s hs => Int.ne_of_lt (hPx s hs)) (fun s hs => Int.ne_of_gt (hpost s hs)),
    List.append_assoc, segRun_putIdx]
  exact drop_final PRE _ x (fun s hs => Int.ne_of_lt (hpre s hs)) (fun s hs => by
    rcases List.mem_cons.mp hs with h | h
    · rw [h]; exact Int.ne_of_gt hlt
    · exact Int.ne_of_gt (Int.lt_trans hlt (hpost s h)))

abbrev rmIdx (b : Int) (d : List SegDisk) : List SegDisk := applyStep d (.removeIdx b)

theorem rmIdx_ok (b : Int) (d : List SegDisk) (h : DiskOK d) :
    DiskOK (rmIdx b d) ∧ absDisk (rmIdx b d) = absDisk d :=
  rmidx_ok d h (fun sd => sd.base = b)

theorem segRun_bracket (s : SegDisk) (b : Int) (v : Ver) (r : List Msg) (f : IdxFile) :
    segRun s [.removeIdx b, .putLog b v r, .putIdx b f] = if s.base = b then ⟨s.base, v, r, some f⟩ else s := by
  by_cases h : s.base = b <;> simp [segRun, segStep, h]

theorem bracket_final (PRE POST : List SegDisk) (x : SegDisk) (v : Ver) (r : List Msg) (f : IdxFile)
    (hpre : ∀ s ∈ PRE, s.base ≠ x.base) (hpost : ∀ s ∈ POST, s.base ≠ x.base) :
    applySteps (PRE ++ x :: POST) [.removeIdx x.base, .putLog x.base v r, .putIdx x.base f] =
      PRE ++ ⟨x.base, v, r, some f⟩ :: POST := by
  have hP : ∀ st ∈ [FsStep.removeIdx x.base, .putLog x.base v r, .putIdx x.base f], stepOn st = some x.base := by
    intro st h
    simp only [List.mem_cons, List.not_mem_nil, or_false] at h
    rcases h with rfl | rfl | rfl <;> rfl
  rw [applySteps_mid _ PRE POST x hP hpre hpost, segRun_bracket, if_pos rfl]

/-- **Index last**: a program that removes the index file of a segment, renames a log over
its log and then writes the index leaves, after any prefix, the directory before or the
directory after, possibly without that index file. -/
theorem bracket_states (b : Int) (v : Ver) (r : List Msg) (f : IdxFile) (d : List SegDisk) (k : Nat) :
    let P := [FsStep.removeIdx b, .putLog b v r, .putIdx b f]
    applySteps d (P.take k) = d ∨ applySteps d (P.take k) = rmIdx b d ∨
    applySteps d (P.take k) = rmIdx b (applySteps d P) ∨ applySteps d (P.take k) = applySteps d P := by
  intro P
  rcases k with _ | _ | _ | k
  · exact Or.inl rfl
  · exact Or.inr (Or.inl rfl)
  · refine Or.inr (Or.inr (Or.inl ?_))
    show onSeg b _ (onSeg b _ d) = onSeg b _ (onSeg b _ (onSeg b _ (onSeg b _ d)))
    unfold onSeg
    rw [List.map_map, List.map_map, List.map_map]
    refine List.map_congr_left fun s _ => ?_
    by_cases h : s.base = b
    · simp only [Function.comp, h, if_true]
    · simp only [Function.comp, h, if_false]
  · exact Or.inr (Or.inr (Or.inr (by rw [List.take_of_length_le (by simp [P])])))

theorem newHead_final (d : List SegDisk) (nb : Int) (v : Ver) (hlt : ∀ s ∈ d, s.base < nb) :
    applySteps d (newHead nb v) = d ++ [⟨nb, v, [], some ⟨v, []⟩⟩] := by
  show applySteps (insertSeg _ d) [.putIdx nb ⟨v, []⟩] = _
  rw [insertSeg_last ⟨nb, v, [], none⟩ d hlt,
    applySteps_mid [.putIdx nb ⟨v, []⟩] d [] ⟨nb, v, [], none⟩ (fun st h => by rw [List.mem_singleton.mp h]; rfl)
      (fun s hs => Int.ne_of_lt (hlt s hs)) (List.forall_mem_nil _), segRun_putIdx]

theorem newHead_states (d : List SegDisk) (nb : Int) (v : Ver) (hlt : ∀ s ∈ d, s.base < nb) (k : Nat) :
    applySteps d ((newHead nb v).take k) = d ∨
    applySteps d ((newHead nb v).take k) = d ++ [⟨nb, v, [], none⟩] ∨
    applySteps d ((newHead nb v).take k) = d ++ [⟨nb, v, [], some ⟨v, []⟩⟩] := by
  rcases k with _ | _ | k
  · exact Or.inl rfl
  · exact Or.inr (Or.inl (insertSeg_last ⟨nb, v, [], none⟩ d hlt))
  · rw [List.take_of_length_le (by simp [newHead])]
    exact Or.inr (Or.inr (newHead_final d nb v hlt))

/-- The new head as it lies on disk. -/
def nhD (l : Log) : SegDisk := ⟨l.wNextOff, l.opts.nsv, [], some ⟨l.opts.nsv, []⟩⟩

theorem nh_shape (l : Log) (hinv : Inv l) (hrw : l.opts.readonly = false) (PRE : List SegDisk) (x : SegDisk)
    (hd : l.disk = PRE ++ [x]) (hrne : x.recs ≠ []) (y : SegDisk) (hyb : y.base = l.wNextOff)
    (hyr : y.recs = []) :
    ShapeOK (shapeD (l.disk ++ [y])) ∧ absDisk (l.disk ++ [y]) = abs l ∧ ∀ s ∈ l.disk, s.base < l.wNextOff := by
  have hs : shape l.segs = shapeD PRE ++ [(x.base, x.recs)] := by
    rw [← shapeD_disk, hd, shapeD_append]; rfl
  have hsy : shapeD (l.disk ++ [y]) = shape l.segs ++ [(shapeNext (shape l.segs), [])] := by
    rw [shapeD_append, shapeD_disk, ← hinv.next hrw, ← hyb, ← hyr]; rfl
  have hnew := shapeOK_snoc_empty hinv.shape (fun br hbr => by
    rw [hs, List.getLast?_concat] at hbr
    rw [← Option.some.inj hbr]
    exact hrne)
  rw [hsy]
  refine ⟨hnew, ?_, fun s hs' => ?_⟩
  · unfold absDisk abs absShape
    rw [hsy, shapeNext_snoc, List.flatMap_append]
    simp [recsNext]
  · have := (List.pairwise_append.mp hnew.order).2.2 (s.base, s.recs)
      (by rw [← shapeD_disk]; exact List.mem_map.mpr ⟨s, hs', rfl⟩) _ (List.mem_singleton.mpr rfl)
    rw [hinv.next hrw]; exact this.1

theorem rollover_disk_eq (l : Log) (h : Seg) (hl : l.segs.getLast? = some h) :
    l.rollover.disk = l.disk ++ if needsRollover l.opts h then [nhD l] else [] := by
  cases hroll : needsRollover l.opts h with
  | true => rw [rollover_of_needs hl hroll]; exact List.map_append
  | false => rw [rollover_of_not hl hroll]; exact (List.append_nil _).symm

theorem append_disk {l : Log} {h : Seg} (hl : l.segs.getLast? = some h)
    (b : List (Int × List UInt8 × List UInt8)) :
    (l.append b).1.disk = l.segs.dropLast.map Seg.toDisk ++
      [⟨h.base, h.ver, h.recs ++ (stamp l.opts.params h.ver l.wNextOff (logSize h.ver h.recs) l.wNextTime b).1,
        h.idxf.map (fun f => { f with items :=
          f.items ++ (stamp l.opts.params h.ver l.wNextOff (logSize h.ver h.recs) l.wNextTime b).2 })⟩] := by
  rw [Log.disk, (append_some l h hl b).2.1, List.map_append]
  rfl

theorem stamp_lengths (p : Params) (v : Ver) : ∀ (batch : List (Int × List UInt8 × List UInt8)) (off pos ts : Int),
    (stamp p v off pos ts batch).1.length = (stamp p v off pos ts batch).2.length := by
  intro batch off pos ts
  have h1 := congrArg List.length (deriveFrom_itemsFor p ts (layoutFrom v pos (Spec.stampSpec off batch)))
  have h2 := congrArg List.length (layoutFrom_map_snd v pos (Spec.stampSpec off batch))
  rw [List.length_map, List.length_map] at h1
  rw [List.length_map] at h2
  rw [stamp_eq, h1, h2]

def cxOpts : OpenOpts :=
  { opts := { readonly := false, params := ⟨false, false⟩, autosync := false, rollover := 1000,
              nsv := .v2, keep := false },
    check := false, recover := false, eager := false }

def cxRecoverOpts : OpenOpts := { cxOpts with recover := true }

def okOr (d : Log) : Out Log → Log
  | .ok l => l
  | .err _ => d

def cx2Opts : OpenOpts := { cxOpts with opts := { cxOpts.opts with rollover := 50 } }
def cx2RecoverOpts : OpenOpts := { cx2Opts with recover := true }

/-- An empty log under `cx2Opts`, then one batch: one segment `0: [0, 1]`. -/
def cx2L0 : Log := okOr default (Log.open [] cx2Opts)
def cx2L1 : Log := (cx2L0.publish [(10, [], [1]), (11, [], [2])]).1

theorem cx2L0_open : Log.open [] cx2Opts = .ok cx2L0 := by decide +kernel

theorem cx2L1_inv : Inv cx2L1 := (publish_step cx2L0 (open_nil_spec _ _ cx2L0_open).1 _).1

end Klev.Crash
