/-
The global invariant of the L1 model and the abstraction to L0.

Everything the L0 view needs is a function of the *shape* of the segment list — base
offsets and records — so the invariant is split into `ShapeOK` (ordering facts) and
`IdxOK` (every index, in a file or in memory, names the records of its segment).

A read touches the log only through `withIndex`: `withIndex_read`.
-/
import Klev.Model
import Klev.Spec
import Klev.Proofs.Layout
namespace Klev

abbrev Shape := List (Int × List Msg)

def shape (segs : List Seg) : Shape := segs.map (fun s => (s.base, s.recs))

def recsNext (base : Int) (recs : List Msg) : Int :=
  match recs.getLast? with
  | some m => m.off + 1
  | none => base

def shapeNext (sh : Shape) : Int :=
  match sh.getLast? with
  | some (b, recs) => recsNext b recs
  | none => 0

def absShape (sh : Shape) : Spec := ⟨sh.flatMap (·.2), shapeNext sh⟩

/-- The abstraction: live messages = the records of all segments in order; next offset =
one past the last record of the head, or the head's base when it is empty. -/
def abs (l : Log) : Spec := absShape (shape l.segs)

structure ShapeOK (sh : Shape) : Prop where
  ne : sh ≠ []
  sorted : ∀ br ∈ sh, br.2.Pairwise (fun a b => a.off < b.off)
  lower : ∀ br ∈ sh, ∀ m ∈ br.2, br.1 ≤ m.off
  order : sh.Pairwise (fun s t => s.1 < t.1 ∧ ∀ m ∈ s.2, m.off < t.1)
  nonempty : ∀ br ∈ sh.dropLast, br.2 ≠ []
  base0 : ∀ br ∈ sh, 0 ≤ br.1

theorem ShapeOK.nonempty_idx {sh : Shape} (h : ShapeOK sh) (j : Nat) (hj : j + 1 < sh.length) :
    (sh[j]'(Nat.lt_of_succ_lt hj)).2 ≠ [] := by
  have h1 : j < sh.dropLast.length := by
    rw [List.length_dropLast]; exact Nat.lt_sub_of_add_lt hj
  exact h.nonempty _ (List.getElem_dropLast h1 ▸ List.getElem_mem h1)

/-- Every index of the segment — the loaded one and the file — names the records. -/
structure IdxOK (s : Seg) : Prop where
  mem : ∀ its, s.mem = some its → ItemsFor s.ver s.recs its
  idx : ∀ f, s.idxf = some f → ItemsFor s.ver s.recs f.items

/-- The head of a read-write log has its index in memory (the writer's) and the same items
in its index file (every publish appends to both). -/
structure HeadOK (h : Seg) : Prop where
  loaded : ∃ its, h.mem = some its ∧ ∃ f, h.idxf = some f ∧ f.items = its

structure Inv (l : Log) : Prop where
  shape : ShapeOK (shape l.segs)
  idx : ∀ s ∈ l.segs, IdxOK s
  next : l.opts.readonly = false → l.wNextOff = shapeNext (Klev.shape l.segs)
  head : l.opts.readonly = false → ∀ h, l.segs.getLast? = some h → HeadOK h

theorem Inv.segs_ne {l : Log} (h : Inv l) : l.segs ≠ [] := fun he => h.shape.ne (by rw [he]; rfl)

theorem loadIndex_out (o : Opts) (s : Seg) :
    (∃ its, s.mem = some its ∧ loadIndex o s = (s, its)) ∨
    ∃ f, loadIndex o s = ({ s with idxf := some f, mem := some f.items }, f.items) ∧
      (s.idxf = some f ∨ f.items = derive o.params s.ver s.recs) := by
  unfold loadIndex
  cases hm : s.mem with
  | some its => exact Or.inl ⟨its, rfl, rfl⟩
  | none =>
    right
    unfold reindexAndRead
    by_cases hr : needsReindex s = true
    · rw [if_pos hr]
      exact ⟨⟨_, derive o.params s.ver s.recs⟩, rfl, Or.inr rfl⟩
    · simp only [hr]
      cases hf : s.idxf with
      | none => simp [needsReindex, hf] at hr
      | some f => exact ⟨f, rfl, Or.inl rfl⟩

theorem loadIndex_base_recs (o : Opts) (s : Seg) :
    (loadIndex o s).1.base = s.base ∧ (loadIndex o s).1.recs = s.recs ∧
    (loadIndex o s).1.ver = s.ver := by
  rcases loadIndex_out o s with ⟨_, _, h⟩ | ⟨_, h, _⟩ <;> rw [h] <;> exact ⟨rfl, rfl, rfl⟩

def SegP (P : List Msg → List Item → Prop) (s : Seg) : Prop :=
  (∀ its, s.mem = some its → P s.recs its) ∧ (∀ f, s.idxf = some f → P s.recs f.items)

theorem loadIndex_P (P : List Msg → List Item → Prop) (o : Opts) (s : Seg)
    (hd : P s.recs (derive o.params s.ver s.recs)) (h : SegP P s) :
    P s.recs (loadIndex o s).2 ∧ SegP P (loadIndex o s).1 := by
  rcases loadIndex_out o s with ⟨its, hm, he⟩ | ⟨f, he, hf⟩
  · rw [he]
    exact ⟨h.1 its hm, h⟩
  · have hP : P s.recs f.items := by
      rcases hf with hf | hf
      · exact h.2 f hf
      · rw [hf]; exact hd
    rw [he]
    exact ⟨hP, fun _ hi => by cases hi; exact hP, fun _ hf' => by cases hf'; exact hP⟩

theorem loadIndex_spec (o : Opts) (s : Seg) (h : IdxOK s) :
    (loadIndex o s).1.base = s.base ∧ (loadIndex o s).1.ver = s.ver ∧
    (loadIndex o s).1.recs = s.recs ∧ ItemsFor s.ver s.recs (loadIndex o s).2 ∧
    IdxOK (loadIndex o s).1 ∧ (loadIndex o s).1.mem = some (loadIndex o s).2 := by
  obtain ⟨hb, hr, hv⟩ := loadIndex_base_recs o s
  obtain ⟨h1, h2⟩ := loadIndex_P (ItemsFor s.ver) o s (derive_itemsFor _ _ _) ⟨h.mem, h.idx⟩
  refine ⟨hb, hv, hr, h1, ⟨by rw [hv]; exact h2.1, by rw [hv]; exact h2.2⟩, ?_⟩
  rcases loadIndex_out o s with ⟨_, hm, he⟩ | ⟨_, he, _⟩ <;> rw [he]
  exact hm

theorem shape_set_same (segs : List Seg) (i : Nat) (s' : Seg) (hi : i < segs.length)
    (hb : s'.base = (segs[i]).base) (hr : s'.recs = (segs[i]).recs) :
    shape (segs.set i s') = shape segs := by
  unfold shape
  rw [List.map_set]
  have : (s'.base, s'.recs) = (segs.map (fun s => (s.base, s.recs)))[i]'(by simpa using hi) := by
    simp [hb, hr]
  rw [this, List.set_getElem_self]

theorem shape_getElem (segs : List Seg) (i : Nat) (hi : i < segs.length) :
    ((shape segs)[i]'(by simpa [shape] using hi)) = ((segs[i]).base, (segs[i]).recs) := by
  simp [shape]

theorem shape_length (segs : List Seg) : (shape segs).length = segs.length := by simp [shape]

/-- `l'` is `l` with some indexes loaded / rebuilt. -/
structure Loaded (l l' : Log) : Prop where
  inv : Inv l'
  shape : shape l'.segs = shape l.segs
  opts : l'.opts = l.opts
  nextOff : l'.wNextOff = l.wNextOff
  nextTime : l'.wNextTime = l.wNextTime

theorem Loaded.refl {l : Log} (h : Inv l) : Loaded l l := ⟨h, rfl, rfl, rfl, rfl⟩

theorem Loaded.trans {a b c : Log} (h1 : Loaded a b) (h2 : Loaded b c) : Loaded a c :=
  ⟨h2.inv, h2.shape.trans h1.shape, h2.opts.trans h1.opts, h2.nextOff.trans h1.nextOff,
   h2.nextTime.trans h1.nextTime⟩

theorem Loaded.abs {l l' : Log} (h : Loaded l l') : abs l' = abs l := by
  unfold Klev.abs; rw [h.shape]

theorem Loaded.len {l l' : Log} (h : Loaded l l') : l'.segs.length = l.segs.length := by
  rw [← shape_length l'.segs, h.shape, shape_length]

theorem shapeNext_last (sh : Shape) (hne : sh ≠ []) :
    shapeNext sh =
      recsNext (sh[sh.length - 1]'(Nat.sub_lt (List.length_pos_iff.mpr hne) Nat.one_pos)).1
        (sh[sh.length - 1]'(Nat.sub_lt (List.length_pos_iff.mpr hne) Nat.one_pos)).2 := by
  unfold shapeNext
  rw [List.getLast?_eq_some_getLast hne, List.getLast_eq_getElem]

theorem lastOffOr_eq {v : Ver} {recs : List Msg} {its : List Item} (h : ItemsFor v recs its)
    (base : Int) : lastOffOr its base = recsNext base recs := by
  have := congrArg List.getLast? h.map_off
  rw [List.getLast?_map, List.getLast?_map] at this
  unfold lastOffOr recsNext
  cases hi : its.getLast? <;> cases hr : recs.getLast? <;> simp_all

/-- What `withIndex` hands a reader of segment `i`; no read needs more of the log. -/
structure SegRead (sh : Shape) (i : Nat) (s : Seg) (its : List Item) (c : RCtx) : Prop where
  lt : i < sh.length
  base : s.base = (sh[i]).1
  recs : s.recs = (sh[i]).2
  items : ItemsFor s.ver s.recs its
  head_of_lt : i + 1 < sh.length → c.head = false
  head_of_last : i + 1 = sh.length → c.head = true
  next : i + 1 = sh.length → c.nextOff = shapeNext sh

theorem SegRead.sorted {sh : Shape} {i : Nat} {s : Seg} {its : List Item} {c : RCtx}
    (h : SegRead sh i s its c) (hsh : ShapeOK sh) : s.recs.Pairwise (fun a b => a.off < b.off) := by
  rw [h.recs]; exact hsh.sorted _ (List.getElem_mem h.lt)

theorem SegRead.nonneg {sh : Shape} {i : Nat} {s : Seg} {its : List Item} {c : RCtx}
    (h : SegRead sh i s its c) (hsh : ShapeOK sh) : ∀ m ∈ s.recs, 0 ≤ m.off := by
  intro m hm
  rw [h.recs] at hm
  exact Int.le_trans (hsh.base0 _ (List.getElem_mem h.lt))
    (hsh.lower _ (List.getElem_mem h.lt) m hm)

theorem withIndex_some {l l1 : Log} {i : Nat} {s' : Seg} {its : List Item} {c : RCtx}
    (hw : withIndex l i = some (l1, s', its, c)) :
    ∃ s, l.segs[i]? = some s ∧ l1 = setSeg l i s' ∧ s' = (loadIndex l.opts s).1 ∧
      its = (loadIndex l.opts s).2 := by
  unfold withIndex at hw
  cases hs : l.segs[i]? with
  | none => rw [hs] at hw; cases hw
  | some s =>
    rw [hs] at hw
    cases hw
    exact ⟨s, rfl, rfl, rfl, rfl⟩

theorem withIndex_loaded {l l1 : Log} {i : Nat} {s' : Seg} {its : List Item} {c : RCtx}
    (hw : withIndex l i = some (l1, s', its, c)) (hinv : Inv l) : Loaded l l1 := by
  obtain ⟨s, hs, rfl, rfl, _⟩ := withIndex_some hw
  obtain ⟨hi, rfl⟩ := List.getElem?_eq_some_iff.mp hs
  obtain ⟨hb, _, hr, _, hok, _⟩ :=
    loadIndex_spec l.opts (l.segs[i]) (hinv.idx _ (List.getElem_mem hi))
  have hsh : shape (l.segs.set i (loadIndex l.opts l.segs[i]).1) = shape l.segs :=
    shape_set_same l.segs i _ hi hb hr
  refine ⟨⟨hsh ▸ hinv.shape, ?_, fun hro => hsh ▸ hinv.next hro, ?_⟩, hsh, rfl, rfl, rfl⟩
  · intro s hs'
    rcases List.mem_or_eq_of_mem_set hs' with h | rfl
    · exact hinv.idx s h
    · exact hok
  · intro hro h hh
    change (l.segs.set i _).getLast? = some h at hh
    by_cases hc : i = l.segs.length - 1
    · -- the head's index is already in memory: loading returns the segment unchanged
      have hlast : l.segs.getLast? = some l.segs[i] := by
        rw [List.getLast?_eq_getElem?, ← hc, List.getElem?_eq_getElem hi]
      obtain ⟨its, hm, _⟩ := (hinv.head hro _ hlast).loaded
      have hsame : (loadIndex l.opts l.segs[i]).1 = l.segs[i] := by
        unfold loadIndex; rw [hm]
      rw [hsame, List.set_getElem_self] at hh
      exact hinv.head hro h hh
    · rw [List.getLast?_eq_getElem?, List.length_set, List.getElem?_set_ne hc,
        ← List.getLast?_eq_getElem?] at hh
      exact hinv.head hro h hh

theorem withIndex_read (l : Log) (hinv : Inv l) (i : Nat) (hi : i < l.segs.length) :
    ∃ l1 s its c, withIndex l i = some (l1, s, its, c) ∧ Loaded l l1 ∧
      SegRead (shape l.segs) i s its c := by
  obtain ⟨hb, hv, hr, hit, _, _⟩ :=
    loadIndex_spec l.opts (l.segs[i]) (hinv.idx _ (List.getElem_mem hi))
  have hlen := shape_length l.segs
  have hsi := shape_getElem l.segs i hi
  have hw : withIndex l i = some (setSeg l i (loadIndex l.opts l.segs[i]).1,
      (loadIndex l.opts l.segs[i]).1, (loadIndex l.opts l.segs[i]).2,
      rctx l (i + 1 == l.segs.length) (loadIndex l.opts l.segs[i]).1
        (loadIndex l.opts l.segs[i]).2) := by
    unfold withIndex
    rw [List.getElem?_eq_getElem hi]
  refine ⟨_, _, _, _, hw, withIndex_loaded hw hinv,
    ⟨hlen ▸ hi, by rw [hsi, hb], by rw [hsi, hr], by rw [hv, hr]; exact hit, ?_, ?_, ?_⟩⟩
  · intro hlt
    have hne : (i + 1 == l.segs.length) = false := by
      rw [hlen] at hlt; exact beq_false_of_ne (Nat.ne_of_lt hlt)
    simp only [rctx, hne, Bool.false_eq_true, if_false]
  · intro hlast
    rw [hlen] at hlast
    simp only [rctx, hlast, beq_iff_eq, if_true]
    split <;> rfl
  · intro hlast
    rw [hlen] at hlast
    simp only [rctx, hlast, beq_iff_eq, if_true]
    cases hro : l.opts.readonly with
    | false => exact hinv.next hro
    | true =>
      have hil : (shape l.segs).length - 1 = i := by rw [hlen, ← hlast, Nat.add_sub_cancel]
      simp only [if_true]
      rw [lastOffOr_eq hit, shapeNext_last _ hinv.shape.ne]
      simp only [hil, hsi, hb]

end Klev
