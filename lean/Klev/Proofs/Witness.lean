/-
Non-vacuity witnesses.

Most property theorems (`Klev/Props/Cxx.lean`) carry hypotheses: `Inv l`, `KeysInv l`,
`TimesInv l`, `FirstAtBase l`, `MemIdx l`, `Spec.Monotone (abs l)`, a read-write handle,
`DiskOK d`, encodable messages, sorted indexes … A theorem whose hypotheses no state
satisfies would say nothing. Here concrete, non-trivial objects are built *by running the
API from an empty directory* and shown to satisfy all of them — through the reachability
theorems (`run_inv_abs`, `keysInv'_run`, `times_run`, `firstAtBase_run`, `run_memIdx`,
`good_runX`), not by unfolding the invariants by hand. The property files instantiate their
theorems at these witnesses.
-/
import Klev.Proofs.ExtReads
import Klev.Proofs.MemIdxInv
import Klev.Proofs.StatOK
import Klev.Proofs.IndexSearch
import Klev.Proofs.SegSearch
namespace Klev.Witness
open Klev

/-! ### the history -/

/-- Read-write, time index **and** key index on, rollover after 60 bytes (a V2 record with a
one-byte key and value takes 38 bytes, so every batch of two or more seals the head),
new segments in V2. -/
def oo : OpenOpts := ⟨⟨false, ⟨true, true⟩, false, 60, Ver.v2, false⟩, false, false, false⟩

/-- The history. Times never decrease; offsets 1 and 2 tie at time 20 *across* a segment
boundary; key `[1]` is published three times, key `[2]` twice; offset 4 has no value and is
the only message of key `[6]`; offset 3 is deleted from the middle of a sealed segment (a
hole), offset 7 from the end of the head (the tail: the rewritten segment is sealed and an
empty head opens at 8); then GC, a close / reopen with the index file of segment 2 removed,
a `Get` that rebuilds that index, and one more publish into the head. -/
def ops : List Op :=
  [ .publish [(10, [1], [1]), (20, [2], [2])],                  -- offsets 0 1
    .consume 0 10,
    .publish [(20, [1], [3]), (30, [3], [4]), (30, [6], [])],   -- rolls: offsets 2 3 4
    .publish [(30, [4], [5]), (40, [1], [6]), (40, [5], [7])],  -- rolls: offsets 5 6 7
    .delete [3],                                                -- hole inside segment 2
    .delete [7],                                                -- tail of the head
    .gc,
    .reopen [2] none false oo,                                  -- index file of segment 2 removed
    .get 4,                                                     -- … and rebuilt on first use
    .publish [(50, [2], [8])] ]                                 -- offset 8

/-- What `Open` returns on an empty directory. -/
def l0 : Log := ⟨oo.opts, [⟨0, .v2, [], some ⟨.v2, []⟩, some []⟩], 0, 0⟩

theorem open_l0 : Log.open [] oo = .ok l0 := by decide +kernel

/-- **The witness**: the state the history reaches. -/
def wL : Log := runOps l0 ops

/-! ### facts about the history (conditions on the operation list alone) -/

theorem ops_same : SameParams oo.opts.params ops := by
  simp [SameParams, OpParams, ops, oo]

theorem ops_mono : PubMono 0 ops := by
  simp [PubMono, PubMonoOp, hwNext, lastTime, ops]

theorem l0_inv : Inv l0 := (open_nil_spec oo l0 open_l0).1

theorem l0_abs : abs l0 = ⟨[], 0⟩ := (open_nil_spec oo l0 open_l0).2.1

theorem l0_carry : TimeCarry l0 0 := by unfold TimeCarry; decide +kernel

theorem ops_timesOK : TimesOKRun l0 ops :=
  timesOKRun_of_pubMono l0 l0_inv rfl (timesInv_open_empty oo l0 open_l0)
    (by rw [l0_abs]; exact monotone_empty) 0 l0_carry ops ops_same ops_mono

/-! ### the hypotheses of the property theorems hold of `wL` (by reachability) -/

theorem wL_inv : Inv wL := (run_inv_abs l0 l0_inv ops).1

/-- Its content is the list semantics of the history. -/
theorem wL_abs : abs wL = specRun ⟨[], 0⟩ l0 ops := by
  have := (run_inv_abs l0 l0_inv ops).2
  rw [l0_abs] at this
  exact this

theorem wL_rw : wL.opts.readonly = false := by decide +kernel

theorem wL_keysOn : wL.opts.params.keys = true := by decide +kernel

theorem wL_timesOn : wL.opts.params.times = true := by decide +kernel

theorem wL_fab : FirstAtBase wL :=
  firstAtBase_run l0 l0_inv (firstAtBase_open_empty oo l0 open_l0) ops

theorem wL_keysInv' : KeysInv' wL :=
  keysInv'_run l0 l0_inv (fun _ => keysInv_open_empty oo l0 open_l0) ops ops_same

theorem wL_keysInv : KeysInv wL := wL_keysInv' wL_keysOn

theorem wL_times : TimesInv wL ∧ Spec.Monotone (abs wL) :=
  times_run l0 l0_inv rfl (timesInv_open_empty oo l0 open_l0)
    (by rw [l0_abs]; exact monotone_empty) ops ops_same ops_timesOK

theorem wL_timesInv : TimesInv wL := wL_times.1

theorem wL_mono : Spec.Monotone (abs wL) := wL_times.2

theorem wL_memIdx : MemIdx wL :=
  run_memIdx l0 l0_inv (open_memIdx [] oo l0 open_l0 (Or.inr rfl)) ops

theorem wL_good : Good wL :=
  ⟨wL_inv, wL_fab, wL_keysInv', fun _ => wL_times⟩

theorem wL_diskOK : DiskOK wL.disk := (disk_of_inv wL wL_inv).1

theorem wL_absDisk : absDisk wL.disk = abs wL := (disk_of_inv wL wL_inv).2

/-! ### the witness is not trivial (evaluated) -/

/-- Four segments `0: [0, 1]`, `2: [2, 4]` (hole at 3), `5: [5, 6]` (tail 7 deleted),
`8: [8]`; seven live messages; next offset 9. -/
theorem wL_shape :
    (shape wL.segs).map (fun br => (br.1, br.2.map (·.off))) =
      [(0, [0, 1]), (2, [2, 4]), (5, [5, 6]), (8, [8])] ∧ (abs wL).next = 9 := by decide +kernel

theorem wL_segs : wL.segs.length ≥ 3 := by decide +kernel

theorem wL_live : (abs wL).live.length ≥ 5 := by decide +kernel

theorem wL_wf : Spec.WF (abs wL) := abs_wf wL wL_inv

/-- The time carry at the end of the history: the writer's `nextTime` and every live time are
at most 50 (the last published time). -/
theorem wL_carry : TimeCarry wL 50 := by unfold TimeCarry; decide +kernel

/-! ### the same history with the lookups inside (`OpX`: they load indexes) -/

def xs : List OpX :=
  [ .op (.publish [(10, [1], [1]), (20, [2], [2])]),
    .getByKey [1],
    .op (.consume 0 10),
    .op (.publish [(20, [1], [3]), (30, [3], [4]), (30, [6], [])]),
    .getByTime 20,
    .op (.publish [(30, [4], [5]), (40, [1], [6]), (40, [5], [7])]),
    .consumeByKey [1] 0 10,
    .op (.delete [3]),
    .op (.delete [7]),
    .op .gc,
    .op (.reopen [2] none false oo),
    .getByTime 30,
    .op (.publish [(50, [2], [8])]),
    .getByKey [2] ]

/-- The state the extended history reaches (same content as `wL`, other indexes loaded). -/
def wX : Log := runX l0 xs

theorem xs_same : SameParamsX oo.opts.params xs := by
  simp [SameParamsX, OpParamsX, OpParams, xs, oo]

theorem xs_mono : PubMonoX 0 xs := by
  simp [PubMonoX, PubMonoOpX, PubMonoOp, hwNextX, hwNext, lastTime, xs]

theorem l0_good : Good l0 := good_open_empty oo l0 open_l0

theorem xs_timesOK : TimesOKRunX l0 xs :=
  timesOKRunX_of_pubMonoX l0 l0_good rfl 0 l0_carry xs xs_same xs_mono

theorem wX_good : Good wX := good_runX l0 l0_good xs xs_same (fun _ => xs_timesOK)

theorem wX_content : (abs wX).live = (abs wL).live ∧ (abs wX).next = (abs wL).next := by decide +kernel

/-- Which reader indexes are in memory differs (`wL`: segments 2 and 8; `wX`: 2, 5 and 8). -/
theorem wX_loaded : wL.segs.map (·.mem.isSome) = [false, true, false, true] ∧
    wX.segs.map (·.mem.isSome) = [false, true, true, true] := by decide +kernel

/-! ### a key-index-only configuration (no condition on times) -/

def ooK : OpenOpts := ⟨⟨false, ⟨false, true⟩, false, 60, Ver.v2, false⟩, false, false, false⟩

def l0K : Log := ⟨ooK.opts, [⟨0, .v2, [], some ⟨.v2, []⟩, some []⟩], 0, 0⟩

theorem open_l0K : Log.open [] ooK = .ok l0K := by decide +kernel

/-- Times go *down* here (30, 20, then 5): allowed without the time index. -/
def xsK : List OpX :=
  [ .op (.publish [(30, [1], [1]), (20, [2], [2])]),
    .getByKey [1],
    .op (.publish [(5, [1], [3]), (5, [3], [4])]),
    .op (.delete [0]),
    .op (.reopen [] none false ooK),
    .consumeByKey [1] 0 10 ]

theorem xsK_same : SameParamsX ooK.opts.params xsK := by
  simp [SameParamsX, OpParamsX, OpParams, xsK, ooK]

/-! ### the files of `wL`, reopened read-only and read-write -/

/-- Read-only, with Check. -/
def ooRO : OpenOpts := ⟨⟨true, ⟨true, true⟩, false, 60, Ver.v2, false⟩, true, false, false⟩

def wRO : Log := ⟨ooRO.opts, wL.disk.map SegDisk.toSeg, 0, 0⟩

theorem open_wRO : Log.open wL.disk ooRO = .ok wRO := by decide +kernel

theorem wRO_inv : Inv wRO := (open_spec wL.disk wL_diskOK ooRO wRO open_wRO).1

theorem wRO_abs : abs wRO = abs wL :=
  ((open_spec wL.disk wL_diskOK ooRO wRO open_wRO).2.1).trans wL_absDisk

theorem wRO_ro : wRO.opts.readonly = true := rfl

theorem wRO_memIdx : MemIdx wRO := open_memIdx wL.disk ooRO wRO open_wRO (Or.inl (by decide +kernel))

/-- Read-write again, with Recover. -/
def ooRec : OpenOpts := { oo with recover := true }

def wRW : Log := match Log.open wL.disk ooRec with | .ok l => l | .err _ => l0

theorem open_wRW : Log.open wL.disk ooRec = .ok wRW := by decide +kernel

/-! ### a concrete sorted index and a concrete base list (the search theorems) -/

/-- The index of the seven live messages in one file: offsets 0 1 2 4 5 6 8 (holes at 3 and
7), timestamps 10 20 20 30 30 40 50 (ties). -/
def wIdx : List Item := derive oo.opts.params .v2 (abs wL).live

theorem wIdx_val : wIdx.map (fun it => (it.off, it.pos, it.ts)) =
    [(0, 8, 10), (1, 46, 20), (2, 84, 20), (4, 122, 30), (5, 159, 30), (6, 197, 40), (8, 235, 50)] := by
  decide +kernel

theorem wIdx_sortedOff : SortedOff wIdx := by unfold SortedOff; decide +kernel

theorem wIdx_sortedTs : SortedTs wIdx := by unfold SortedTs; decide +kernel

/-- The segment bases of `wL`. -/
theorem wL_bases : bases wL = [0, 2, 5, 8] := by decide +kernel

theorem wL_bases_sorted : SortedB (bases wL) := by unfold SortedB; decide +kernel

end Klev.Witness

#print axioms Klev.Witness.open_l0
#print axioms Klev.Witness.wL_inv
#print axioms Klev.Witness.wL_abs
#print axioms Klev.Witness.wL_good
#print axioms Klev.Witness.wL_keysInv
#print axioms Klev.Witness.wL_times
#print axioms Klev.Witness.wL_fab
#print axioms Klev.Witness.wL_memIdx
#print axioms Klev.Witness.wL_diskOK
#print axioms Klev.Witness.wL_shape
#print axioms Klev.Witness.wL_carry
#print axioms Klev.Witness.wX_good
#print axioms Klev.Witness.wRO_inv
#print axioms Klev.Witness.wRO_memIdx
#print axioms Klev.Witness.open_wRW
#print axioms Klev.Witness.wIdx_sortedOff
#print axioms Klev.Witness.wIdx_sortedTs
#print axioms Klev.Witness.wL_bases_sorted
