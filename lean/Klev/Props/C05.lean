/-
C05 — A crash at any step leaves a log that Recover reopens consistently.

Proved here: the byte-level recovery theorems for the head segment (what `Open(Recover)`
does to whatever a crash left in the head's files) and the structural facts about the
order of file-system steps. The directory-level statement for the delete / migrate /
recover families is decided by the crash-image correspondence (every crash point, torn
appends, depth 2) against the L0 relation; see DESIGN.md §0 and the `_partial` naming.
-/
import Klev.Proofs.RecoverCheck
import Klev.Proofs.TornAppend
import Klev.Proofs.CrashProofs
import Klev.Proofs.CrashOpenProofs
import Klev.Gen.Facts
import Klev.Proofs.Witness
import Klev.Proofs.WitnessBytes
namespace Klev.C05

/-- Order of file-system steps in the current source (regenerated by go/ast on every run):
a record is written before its index item and both before the in-memory index append;
rewritten / recovered / migrated files are fsynced before they are renamed in; the old head
is fsynced before a new segment is created. -/
theorem source_facts :
    Gen.recordBeforeIndexItem = true ∧ Gen.syncBeforeRename = true ∧ Gen.rolloverSyncsOldHead = true := by
  decide

/-- **Recovery of the head segment, closed form.** Whatever follows the valid records in the
head log (as long as it does not itself parse as a record there: a torn append, zero fill,
garbage) and whatever the index file holds (missing, torn, stale, right): Recover leaves
exactly the valid records, and the index is absent, kept (if right) or rewritten to the
derived one. -/
theorem recover_closed_form_partial (p : Params) (base : Int) (ms : List Msg) (junk : List UInt8)
    (idx : Option (List UInt8)) (h : ∀ m ∈ ms, m.Encodable)
    (hno : ∀ m n, dec .v2 (render .v2 ms ++ junk) (render .v2 ms).length ≠ .ok m n) :
    Seg.recover p ⟨base, render .v2 ms ++ junk, idx⟩ =
      .ok ⟨base, render .v2 ms, recoveredIdx p base (derive p .v2 ms) idx⟩ :=
  Klev.recover_eq p base ms junk idx h hno

/-- After that recovery Check passes (all views of the head agree with its log). -/
theorem check_after_recover_partial (p : Params) (base : Int) (ms : List Msg) (junk : List UInt8)
    (idx : Option (List UInt8)) (h : ∀ m ∈ ms, m.Encodable)
    (hno : ∀ m n, dec .v2 (render .v2 ms ++ junk) (render .v2 ms).length ≠ .ok m n)
    (hsize : (render .v2 ms).length < two63) (hbase : 0 ≤ base) (hfirst : ∀ m ∈ ms.head?, m.off = base) :
    ∀ f', Seg.recover p ⟨base, render .v2 ms ++ junk, idx⟩ = .ok f' → Seg.check p f' = .ok () :=
  Klev.check_after_recover p base ms junk idx h hno hsize hbase hfirst

/-- "It can be appended to and still passes Check": appending encoded records and their
derived items to a checked segment keeps Check passing. -/
theorem check_stable_append (p : Params) (base : Int) (ms ms2 : List Msg) (iv : Ver)
    (h1 : ∀ m ∈ ms, m.Encodable) (h2 : ∀ m ∈ ms2, m.Encodable)
    (hsize : (render .v2 (ms ++ ms2)).length < two63)
    (hv1 : iv = .v1 → 0 ≤ base ∧ ∀ m ∈ (ms ++ ms2).head?, m.off = base)
    (hc : Seg.check p ⟨base, render .v2 ms, some (renderIdx p iv (deriveScan p (scan .v2 (render .v2 ms)).recs))⟩ = .ok ()) :
    Seg.check p ⟨base, render .v2 (ms ++ ms2),
      some (renderIdx p iv (deriveScan p (scan .v2 (render .v2 (ms ++ ms2))).recs))⟩ = .ok () :=
  Klev.check_stable_append p base ms ms2 iv h1 h2 hsize hv1 hc

/-- **A crash inside a batch append** (any byte count `c` of the batch reached the file, the
index file in any state): Recover keeps the records before the batch and exactly the `k`
whole records of the batch that reached the file — an acknowledged message is never lost,
an unacknowledged one is either wholly there or absent. -/
theorem torn_batch_recovers (p : Params) (base : Int) (ms bs : List Msg)
    (idx : Option (List UInt8)) (hms : ∀ x ∈ ms, x.Encodable) (hbs : ∀ x ∈ bs, x.Encodable)
    (c : Nat) (hc : c ≤ (encAll .v2 bs).length) :
    ∃ k, k ≤ bs.length ∧ (encAll .v2 (bs.take k)).length ≤ c ∧
      (k < bs.length → c < (encAll .v2 (bs.take (k + 1))).length) ∧
      Seg.recover p ⟨base, (render .v2 ms ++ encAll .v2 bs).take ((render .v2 ms).length + c), idx⟩ =
        .ok ⟨base, render .v2 (ms ++ bs.take k), recoveredIdx p base (derive p .v2 (ms ++ bs.take k)) idx⟩ :=
  Klev.torn_batch_recovers p base ms bs idx hms hbs c hc

/-- … and the recovered head passes Check and a second Recover changes nothing. -/
theorem torn_batch_check (p : Params) (base : Int) (ms bs : List Msg)
    (idx : Option (List UInt8)) (hms : ∀ x ∈ ms, x.Encodable) (hbs : ∀ x ∈ bs, x.Encodable)
    (c : Nat) (hc : c ≤ (encAll .v2 bs).length)
    (hsize : (render .v2 (ms ++ bs)).length < two63) (hbase : 0 ≤ base)
    (hfirst : ∀ x ∈ (ms ++ bs).head?, x.off = base) :
    ∀ f', Seg.recover p ⟨base, (render .v2 ms ++ encAll .v2 bs).take ((render .v2 ms).length + c), idx⟩ = .ok f' →
      Seg.check p f' = .ok () ∧ Seg.recover p f' = .ok f' :=
  Klev.torn_batch_check p base ms bs idx hms hbs c hc hsize hbase hfirst

/-- A record cut anywhere is classified end-of-data / short header / short data, never a record
(both formats). -/
theorem torn_record_class (v : Ver) (pre : List UInt8) (m : Msg) (h : m.Encodable) (j : Nat)
    (hj : j < (enc v m).length) :
    dec v (pre ++ (enc v m).take j) pre.length =
      if j = 0 then .eof else if j < 28 then .bad .shortHeader else .bad .shortData :=
  Klev.torn_record_class v pre m h j hj

/-! ### the multi-file operations (record level)

`Klev/Crash.lean` gives Publish (with rollover) and Delete (every way a rewritten segment is
swapped in) as programs of file-system steps; a crash leaves the directory after a prefix.
That the running code goes through exactly these directories is checked on every run (every
crash image's listing must be one of `crashStates`); that the programs end in the model's
result is `prog_final`. -/

open Klev.Crash in
/-- **Every crash point of Publish and of every non-rebasing Delete is recovered**: Open with
Recover (any other options) succeeds, the log satisfies the invariant (hence all views agree and
every later operation behaves, by the theorems of C01–C12), and its content is the acknowledged
messages plus a prefix of the batch in flight / the delete applied completely or not at all; the
next offset never moves backwards. -/
theorem crash_recovers (l : Log) (hinv : Inv l) (hrw : l.opts.readonly = false) (op : COp)
    (hnr : ∀ o, op = .delete o → rebasing l o = false) (k : Nat)
    (oo : OpenOpts) (hro : oo.opts.readonly = false) (hrec : oo.recover = true)
    (hp : oo.opts.params = l.opts.params) :
    ∃ l', Log.open (crashState l op k) oo = .ok l' ∧ Inv l' ∧ CrashOK l op (abs l') :=
  Klev.Crash.crash_recovers l hinv hrw op hnr k oo hro hrec hp

open Klev.Crash in
/-- The programs end exactly in the directory of the model after the operation. -/
theorem prog_final (l : Log) (hinv : Inv l) (hrw : l.opts.readonly = false) (op : COp) :
    applySteps l.disk (prog l op) =
      (match op with | .publish b => (l.publish b).1 | .delete o => (l.delete o).1).disk :=
  Klev.Crash.prog_final l hinv hrw op

open Klev.Crash in
/-- **The known window D6, proved**: without "non-rebasing" the theorem is false. A Delete that removes
the first message of a segment while others survive renames the rewritten files to a new base before it
removes the old ones; a crash in between leaves two overlapping segments, which Open(Recover) opens to a
log that shows the survivors twice and violates the invariant. (The same history is replayed on the real
code by the crash profile: known finding D6.) -/
theorem rebase_crash_counterexample :
    ∃ l', Log.open (crashState cxL (.delete [0]) 2) cxRecoverOpts = .ok l' ∧ (abs l').live.map (·.off) = [0, 1, 2, 1, 2] :=
  Klev.Crash.rebase_crash_counterexample

open Klev.Crash in
theorem crash_recovers_needs_nonrebasing :
    ¬ (∀ (l : Log), Inv l → l.opts.readonly = false → ∀ (op : COp) (k : Nat) (oo : OpenOpts),
        oo.opts.readonly = false → oo.recover = true → oo.opts.params = l.opts.params →
        ∃ l', Log.open (crashState l op k) oo = .ok l' ∧ Inv l' ∧ CrashOK l op (abs l')) :=
  Klev.Crash.crash_recovers_needs_nonrebasing

/-! ### crash points of `Open` itself (Recover, eager migration, the head's writer)

`Klev/CrashOpen.lean` gives a read-write Open as a program of file-system steps as well (the
head's index removed and rewritten by Recover; per segment the index removed, the migrated log
renamed in, the index written; the head's writer files). That the running code goes through
exactly these directories is checked on every run (the listing of every image taken inside an
Open must be one of `openCrashStates`). -/

open Klev.Crash in
/-- **Every crash point inside Open is recovered to the same content**: for every directory that
is clean except possibly for the head's index file, every Open (any options: Recover, Check,
eager migration to either format) and every prefix of its program, reopening with Recover
succeeds, the log satisfies the invariant and holds exactly what the directory held. In
particular a crash inside a recovery or a migration loses nothing, and so does a crash inside
the recovery of that crash, and so on. -/
theorem open_crash_reopens (d : List SegDisk) (hd : DiskOKH d) (oo : OpenOpts) (k : Nat)
    (oo' : OpenOpts) (hrec : oo'.recover = true) (hro : oo'.opts.readonly = false) :
    ∃ l', Log.open (openCrashState d oo k) oo' = .ok l' ∧ Inv l' ∧ abs l' = absDisk d :=
  Klev.Crash.open_crash_reopens d hd oo k oo' hrec hro

open Klev.Crash in
/-- The same for the very first Open of an empty directory. -/
theorem open_crash_reopens_empty (oo : OpenOpts) (hro0 : oo.opts.readonly = false) (k : Nat)
    (oo' : OpenOpts) (hrec : oo'.recover = true) (hro : oo'.opts.readonly = false) :
    ∃ l', Log.open (openCrashState [] oo k) oo' = .ok l' ∧ Inv l' ∧ (abs l').live = [] ∧ (abs l').next = 0 :=
  Klev.Crash.open_crash_reopens_empty oo hro0 k oo' hrec hro

open Klev.Crash in
/-- The Open program ends exactly in the files of the model's Open. -/
theorem open_prog_final (d : List SegDisk) (hd : DiskOKH d) (oo : OpenOpts)
    (hro : oo.opts.readonly = false) (l' : Log) (h : Log.open d oo = .ok l') :
    applySteps d (openProg d oo) = l'.disk :=
  Klev.Crash.open_prog_final d hd oo hro l' h

open Klev.Crash in
/-- Crash after crash: the directory a crash inside Open leaves is again one the theorem applies to. -/
theorem open_crash_disk (d : List SegDisk) (hd : DiskOKH d) (oo : OpenOpts) (k : Nat) :
    shapeD (openCrashState d oo k) = shapeD d ∧ DiskOKH (openCrashState d oo k) :=
  Klev.Crash.open_crash_disk d hd oo k

/-! ### the order of the file operations, regenerated from the source

The programs of `Klev/Crash.lean` assume an order of `os.Remove` / `os.Rename` calls inside
`Segment.Override`, `Segment.Rename`, `Segment.Remove` and an order of those (and of creating the new
head) inside `reader.Delete` / `writer.Delete`. The extractor (go/ast) regenerates these orders from the
current source on every run; the theorems below say they are the orders of the model's programs. -/

/-- The step of the model, in the vocabulary of the extractor. -/
def stepName : Klev.Crash.FsStep → String
  | .removeIdx _ => "Remove:index"
  | .removeSeg _ => "Remove:log"
  | .putLog _ _ _ => "Rename:log"
  | .putIdx _ _ => "Rename:index"
  | .addSeg _ _ _ => "Rename:log"
  | .createSeg _ _ => "create:log"
  | .appendRec _ => "append:log"
  | .appendItem _ => "append:index"

open Klev.Crash in
/-- Nothing survives: the segment's files are removed, index first (`Segment.Remove`). -/
theorem swap_order_dropped (p : Params) (b : Int) (rw : Rewrite) (h : rw.survive.isEmpty = true) :
    String.intercalate "," ((swapProg p b rw).map stepName) = Gen.segmentRemoveSteps := by
  simp [swapProg, h, stepName, Gen.segmentRemoveSteps, String.intercalate]
  decide

open Klev.Crash in
/-- Same base: `Segment.Override` — old index removed, log renamed in, index renamed in. -/
theorem swap_order_override (p : Params) (b : Int) (rw : Rewrite) (h : rw.survive.isEmpty = false)
    (hb : minOff (rw.survive.map (·.off)) = b) :
    String.intercalate "," ((swapProg p b rw).map stepName) = Gen.segmentOverrideSteps := by
  simp [swapProg, h, hb, stepName, Gen.segmentOverrideSteps, String.intercalate]
  decide

open Klev.Crash in
/-- New base: `Segment.Rename` to the new name, then `Segment.Remove` of the old one. -/
theorem swap_order_rebase (p : Params) (b : Int) (rw : Rewrite) (h : rw.survive.isEmpty = false)
    (hb : minOff (rw.survive.map (·.off)) ≠ b) :
    String.intercalate "," ((swapProg p b rw).map stepName) =
      Gen.segmentRenameSteps ++ "," ++ Gen.segmentRemoveSteps := by
  simp [swapProg, h, hb, stepName, Gen.segmentRenameSteps, Gen.segmentRemoveSteps, String.intercalate]
  decide

open Klev.Crash in
/-- `Segment.Migrate` of a segment in another format: index removed first, the migrated log renamed
over the log, the index written (the order of `migrateProg`, Klev/CrashOpen.lean). -/
theorem migrate_order (p : Params) (mv iv : Ver) (s : SegDisk) (h : s.ver ≠ mv) :
    String.intercalate "," ((migrateProg p mv iv s).map stepName) = Gen.segmentMigrateSteps := by
  simp [migrateProg, h, stepName, Gen.segmentMigrateSteps, String.intercalate]
  decide

open Klev.Crash in
/-- `Segment.Recover`: the recovered log renamed in (when the log was cut: the byte-level part), then a
differing index removed and written again (the order of `recoverProg`). -/
theorem recover_order (p : Params) (hd : SegDisk) (f : IdxFile) (hf : hd.idxf = some f)
    (hne : (f.items == derive p hd.ver hd.recs) = false) :
    "Rename:log," ++ String.intercalate "," ((recoverProg p hd).map stepName) = Gen.segmentRecoverSteps := by
  simp [recoverProg, hf, hne, stepName, Gen.segmentRecoverSteps, String.intercalate]
  decide

/-- Which of these `reader.Delete` and `writer.Delete` call, in source order, path by path: dropped
(`rs.Remove`, then the segment's `Remove`), rebased (`rs.Rename`, then `Remove`), same base (`rs.Override`);
in the head the new head is opened (`openWriter`) *before* the old files go whenever the tail goes away. -/
theorem delete_call_order :
    Gen.readerDeleteCalls = "rs.Remove,r.segment.Remove,rs.Rename,r.segment.Remove,rs.Override" ∧
    Gen.writerDeleteCalls =
      "rs.Remove,rs.Remove,openWriter,w.segment.Remove,openWriter,rs.Rename,w.segment.Remove,openWriter,rs.Override,openWriter" :=
  ⟨rfl, rfl⟩

end Klev.C05

/-! ### Non-vacuity

Byte level: the seven messages `Witness.wMs` (the content of the witness log), a batch
`Witness.wBs` appended behind them, a message `Witness.wM`; junk `[0, 0, 0]` (three zero
bytes: `hno_short`), index files missing / garbage. Record level: the witness log
`Witness.wL` (four segments, a hole, a deleted tail; `Klev/Proofs/Witness.lean`). -/
section NonVacuity
open Klev Klev.Witness Klev.Crash

example := Klev.C05.recover_closed_form_partial ⟨true, true⟩ 0 wMs [0, 0, 0] (some [1, 2, 3]) wMs_enc
  (Klev.hno_short wMs [0, 0, 0] (by decide +kernel))
example := Klev.C05.check_after_recover_partial ⟨true, true⟩ 0 wMs [0, 0, 0] none wMs_enc
  (Klev.hno_short wMs [0, 0, 0] (by decide +kernel)) wMs_size (by decide +kernel) wMs_first
example := Klev.C05.check_stable_append ⟨true, true⟩ 0 wMs wBs .v1 wMs_enc wBs_enc wMsBs_size
  (fun _ => ⟨by decide +kernel, wMsBs_first⟩)
  (Klev.check_clean ⟨true, true⟩ 0 wMs .v1 wMs_enc wMs_size (fun _ => ⟨by decide +kernel, wMs_first⟩))
-- 50 of the 77 bytes of the batch reached the file: its first record (40 bytes) is kept
example := Klev.C05.torn_batch_recovers ⟨true, true⟩ 0 wMs wBs (some []) wMs_enc wBs_enc 50
  (by rw [wBs_len]; decide +kernel)
example := Klev.C05.torn_batch_check ⟨true, true⟩ 0 wMs wBs (some []) wMs_enc wBs_enc 50
  (by rw [wBs_len]; decide +kernel) wMsBs_size (by decide +kernel) wMsBs_first
example := Klev.C05.torn_record_class .v2 [7, 7] wM wM_enc 10 (by rw [wM_len.1]; decide +kernel)
example := Klev.C05.torn_record_class .v1 [] wM wM_enc 30 (by rw [wM_len.2]; decide +kernel)

-- record level: a Delete of the tail of a sealed segment, of the whole head, and a Publish
example : rebasing wL [6] = false ∧ rebasing wL [8] = false ∧ rebasing wL [4] = false ∧
    rebasing wL [2] = true := by decide +kernel
example := Klev.C05.crash_recovers wL wL_inv wL_rw (.delete [6])
  (by intro o ho; cases ho; decide +kernel) 2 ooRec rfl rfl (by decide +kernel)
example := Klev.C05.crash_recovers wL wL_inv wL_rw (.delete [8])
  (by intro o ho; cases ho; decide +kernel) 3 ooRec rfl rfl (by decide +kernel)
example := Klev.C05.crash_recovers wL wL_inv wL_rw (.publish [(60, [9], [9]), (61, [], [])])
  (by intro o ho; cases ho) 1 ooRec rfl rfl (by decide +kernel)
example := Klev.C05.prog_final wL wL_inv wL_rw (.delete [6])
example := Klev.C05.prog_final wL wL_inv wL_rw (.publish [(60, [9], [9]), (61, [], [])])

-- evaluated: the content of every crash state of these operations
example : (crashStates wL (.delete [6])).map (fun d => ((absDisk d).live.map (·.off), (absDisk d).next)) =
    [([0, 1, 2, 4, 5, 6, 8], 9), ([0, 1, 2, 4, 5, 6, 8], 9), ([0, 1, 2, 4, 5, 8], 9),
     ([0, 1, 2, 4, 5, 8], 9)] := by decide +kernel
example : (crashStates wL (.delete [8])).map (fun d => ((absDisk d).live.map (·.off), (absDisk d).next)) =
    [([0, 1, 2, 4, 5, 6, 8], 9), ([0, 1, 2, 4, 5, 6, 8], 9), ([0, 1, 2, 4, 5, 6, 8], 9),
     ([0, 1, 2, 4, 5, 6, 8], 9), ([0, 1, 2, 4, 5, 6], 9)] := by decide +kernel
example : (crashStates wL (.publish [(60, [9], [9]), (61, [], [])])).map
      (fun d => ((absDisk d).live.map (·.off), (absDisk d).next)) =
    [([0, 1, 2, 4, 5, 6, 8], 9), ([0, 1, 2, 4, 5, 6, 8, 9], 10), ([0, 1, 2, 4, 5, 6, 8, 9], 10),
     ([0, 1, 2, 4, 5, 6, 8, 9, 10], 11), ([0, 1, 2, 4, 5, 6, 8, 9, 10], 11)] := by decide +kernel

-- a crash inside an Open with Recover and eager migration (stale head index, V1 segments, 8 steps, 9 distinct states)
example := Klev.C05.open_crash_reopens oxD oxD_ok oxOpts 4 { oxOpts with eager := false } rfl rfl
example := Klev.C05.open_crash_disk oxD oxD_ok oxOpts 5
example : (openProg oxD oxOpts).length = 8 ∧ (openCrashStates oxD oxOpts).Nodup := ⟨ox_prog_length, ox_states_distinct⟩
example := Klev.C05.open_crash_reopens_empty oxOpts rfl 1 oxOpts rfl rfl

end NonVacuity

#print axioms Klev.C05.source_facts
#print axioms Klev.C05.recover_closed_form_partial
#print axioms Klev.C05.check_after_recover_partial
#print axioms Klev.C05.check_stable_append
#print axioms Klev.C05.torn_batch_recovers
#print axioms Klev.C05.torn_batch_check
#print axioms Klev.C05.torn_record_class
#print axioms Klev.C05.crash_recovers
#print axioms Klev.C05.prog_final
#print axioms Klev.C05.rebase_crash_counterexample
#print axioms Klev.C05.crash_recovers_needs_nonrebasing
#print axioms Klev.C05.open_crash_reopens
#print axioms Klev.C05.open_crash_reopens_empty
#print axioms Klev.C05.open_prog_final
#print axioms Klev.C05.open_crash_disk
#print axioms Klev.C05.swap_order_dropped
#print axioms Klev.C05.swap_order_override
#print axioms Klev.C05.swap_order_rebase
#print axioms Klev.C05.delete_call_order
#print axioms Klev.C05.migrate_order
#print axioms Klev.C05.recover_order
