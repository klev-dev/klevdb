/-
C06 — Everything below the offset returned by Sync survives losing unsynced data.

Under the tail-loss fault model every file is cut back to a length between its fsynced
length and its current length. Sealed segments and renamed-in files are fully fsynced
before the step that makes them visible (structural facts below), so only the head's files
can lose a tail; the head log then is "valid records ++ a strict prefix of a record" and the
index is arbitrary — exactly the situation of the recovery theorems of C05. The
directory-level statement over all workloads is decided by the loss-image correspondence.
-/
import Klev.Proofs.RecoverCheck
import Klev.Proofs.TornAppend
import Klev.Proofs.LossProofs
import Klev.Gen.Facts
import Klev.Proofs.Witness
import Klev.Proofs.WitnessBytes
namespace Klev.C06

/-- Sync fsyncs the log and then the index of the head, and does so in one critical section of
the writer lock together with the reading of the offset it reports (so the offset acknowledged is
one the fsync covered, whatever publishes run concurrently); the old head is fsynced before a new
segment is created; rewritten / recovered / migrated files are fsynced before rename. -/
theorem source_facts :
    Gen.syncLogThenIndex = true ∧ Gen.syncUnderWriterLock = true ∧ Gen.rolloverSyncsOldHead = true ∧
    Gen.syncBeforeRename = true := by
  decide

/-- The records that were fsynced (a prefix `ms` of the head's records) survive whatever
tail is lost behind them and whatever is left of the index. -/
theorem synced_prefix_survives_partial (p : Params) (base : Int) (ms : List Msg) (tail : List UInt8)
    (idx : Option (List UInt8)) (h : ∀ m ∈ ms, m.Encodable)
    (hno : ∀ m n, dec .v2 (render .v2 ms ++ tail) (render .v2 ms).length ≠ .ok m n) :
    ∃ f', Seg.recover p ⟨base, render .v2 ms ++ tail, idx⟩ = .ok f' ∧ f'.log = render .v2 ms :=
  ⟨_, Klev.recover_eq p base ms tail idx h hno, rfl⟩

/-- Tail loss inside the unsynced batch: with `ms` fsynced and any `c` bytes of the later batch
`bs` surviving, recovery keeps all of `ms` (everything below the offset Sync returned) and a
prefix of `bs`. -/
theorem synced_survive_batch_loss (p : Params) (base : Int) (ms bs : List Msg)
    (idx : Option (List UInt8)) (hms : ∀ x ∈ ms, x.Encodable) (hbs : ∀ x ∈ bs, x.Encodable)
    (c : Nat) (hc : c ≤ (encAll .v2 bs).length) :
    ∃ k f', Seg.recover p ⟨base, (render .v2 ms ++ encAll .v2 bs).take ((render .v2 ms).length + c), idx⟩ = .ok f' ∧
      f'.log = render .v2 (ms ++ bs.take k) := by
  obtain ⟨k, _, _, _, h⟩ := Klev.torn_batch_recovers p base ms bs idx hms hbs c hc
  exact ⟨k, _, h, rfl⟩

/-! ### record level: losing the unsynced tail of the head (Klev/Loss.lean)

Sealed segments are fsynced at rollover and rewritten files before they are renamed in (the
regenerated facts above; the loss profile also checks on every image that only the head's files
had an unsynced tail), so a power loss cuts the head log back to some number `j` of whole records
and leaves the head index in any state. -/

open Klev.Loss in
/-- Whatever tail of the head log is lost and whatever is left of the head index, Open with Recover
succeeds, the log satisfies the invariant, holds exactly the messages that were not lost, and its next
offset is the one after the last surviving record. -/
theorem loss_recovers (l : Log) (hinv : Inv l) (j : Nat) (idx : Option IdxFile)
    (oo : OpenOpts) (hro : oo.opts.readonly = false) (hrec : oo.recover = true) :
    ∃ l', Log.open (lossState l j idx) oo = .ok l' ∧ Inv l' ∧
      (abs l').live = keptLive l j ∧ (abs l').next = ackAfter l j :=
  Klev.Loss.loss_recovers l hinv j idx oo hro hrec

open Klev.Loss in
/-- **The property**: if Sync acknowledged when the head held `n` records and at least those survive
(`n ≤ j`: fsynced data is not lost), every live message below the acknowledged offset survives, NextOffset
is not below it, and what survives is a prefix of what was there. -/
theorem synced_survive (l : Log) (hinv : Inv l) (n j : Nat) (hnj : n ≤ j) (idx : Option IdxFile)
    (oo : OpenOpts) (hro : oo.opts.readonly = false) (hrec : oo.recover = true) :
    ∃ l', Log.open (lossState l j idx) oo = .ok l' ∧ Inv l' ∧
      (∀ m ∈ (abs l).live, m.off < ackAfter l n → m ∈ (abs l').live) ∧
      ackAfter l n ≤ (abs l').next ∧
      (abs l').live <+: (abs l).live :=
  Klev.Loss.synced_survive l hinv n j hnj idx oo hro hrec

end Klev.C06

/-! ### Non-vacuity

Byte level: the messages `Witness.wMs` / `Witness.wBs`. Record level: the witness log
`Witness.wL` after one more publish of two messages, so that its head (base 8) holds three
records `[8, 9, 10]` (46 + 38 + 36 bytes: no rollover before the batch). -/
section NonVacuity
open Klev Klev.Witness Klev.Loss

example := Klev.C06.synced_prefix_survives_partial ⟨true, true⟩ 0 wMs [0, 0, 0] (some [1, 2, 3]) wMs_enc
  (Klev.hno_short wMs [0, 0, 0] (by decide +kernel))
example := Klev.C06.synced_survive_batch_loss ⟨true, true⟩ 0 wMs wBs none wMs_enc wBs_enc 50
  (by rw [wBs_len]; decide +kernel)

example := Klev.C06.loss_recovers wL wL_inv 0 none ooRec rfl rfl
example := Klev.C06.loss_recovers (wL.publish [(60, [9], [9]), (61, [], [])]).1
  (Klev.publish_step wL wL_inv _).1 1 (some ⟨.v2, []⟩) ooRec rfl rfl
example := Klev.C06.synced_survive (wL.publish [(60, [9], [9]), (61, [], [])]).1
  (Klev.publish_step wL wL_inv _).1 1 2 (by decide +kernel) none ooRec rfl rfl

-- evaluated: what Sync acknowledged at 0, 1, 2, 3 records in the head; what Open(Recover) makes
-- of the directory when the head log keeps one / two of its three records
example : (List.range 4).map (ackAfter (wL.publish [(60, [9], [9]), (61, [], [])]).1) = [8, 9, 10, 11] := by
  decide +kernel
example : openContent (lossState (wL.publish [(60, [9], [9]), (61, [], [])]).1 1 none) ooRec =
    some ([0, 1, 2, 4, 5, 6, 8], 9) := by decide +kernel
example : openContent (lossState (wL.publish [(60, [9], [9]), (61, [], [])]).1 2 (some ⟨.v2, []⟩)) ooRec =
    some ([0, 1, 2, 4, 5, 6, 8, 9], 10) := by decide +kernel
example : openContent (lossState wL 0 none) ooRec = some ([0, 1, 2, 4, 5, 6], 8) := by decide +kernel

end NonVacuity

#print axioms Klev.C06.source_facts
#print axioms Klev.C06.synced_prefix_survives_partial
#print axioms Klev.C06.synced_survive_batch_loss
#print axioms Klev.C06.loss_recovers
#print axioms Klev.C06.synced_survive
