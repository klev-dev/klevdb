/-
C04 — Get returns exactly the addressed message, with a stable error taxonomy.
-/
import Klev.Proofs.IndexSearch
import Klev.Proofs.SearchTie
import Klev.Proofs.SegSearch
import Klev.Proofs.GetOK
import Klev.Proofs.Witness
namespace Klev.C04

/-- **Refinement.** On every log state satisfying the invariant, for every offset, `Log.get`
returns what the L0 relation `GetOK` says: the live message with exactly that offset;
`ErrNotFound` for an assigned offset whose message is gone (hole at a segment start, in the
middle, deleted tail of a reader segment, before the first segment); `ErrInvalidOffset`
for an offset not assigned yet; `OffsetOldest` / `OffsetNewest` the first / last live
message (also when the head segment is empty), `ErrInvalidOffset` on an empty log; other
negative offsets fail. -/
theorem get_ok (l : Log) (hinv : Inv l) (off : Int) :
    Spec.GetOK (abs l) off (l.get off).2 :=
  Klev.get_ok l hinv off

/-- The exact-match search of `index.Get`, for every sorted index and every offset. -/
theorem index_get_spec (items : List Item) (off : Int) (hs : SortedOff items) :
    Index.get items off = Index.getSpec items off :=
  Index.get_eq_spec items off hs

/-- Segment selection for point lookups, with the before-start classification. -/
theorem segment_get_spec (bases : List Int) (off : Int) (hs : SortedB bases)
    (hne : bases ≠ []) (h1 : off ≠ offsetOldest) (h2 : off ≠ offsetNewest) :
    (∃ h0 : 0 < bases.length, off < bases[0] ∧
        SegSearch.get bases off = .ok (.error (if bases[0] = 0 then .relative else .beforeStart))) ∨
    (∃ i : Nat, SegSearch.get bases off = .ok (.ok (i : Int)) ∧ IsSegFor bases off i) :=
  SegSearch.get_spec bases off hs hne h1 h2

example : Index.get [⟨1, 8, 0, 0⟩, ⟨3, 50, 0, 0⟩, ⟨5, 90, 0, 0⟩, ⟨9, 130, 0, 0⟩] 5 = .ok 90 := by decide +kernel
example : Index.get [⟨1, 8, 0, 0⟩, ⟨3, 50, 0, 0⟩, ⟨5, 90, 0, 0⟩, ⟨9, 130, 0, 0⟩] 4 = .error .notFound := by decide +kernel

/-- **Regenerated tie (T4).** `index.Get` and `segment.Get` of the current source, translated
statement by statement on every run, equal the model functions for every input. -/
theorem search_tie_get (items : List Item) (bases : List Int) (off : Int) :
    Gen.Search.indexGet items off = Index.get items off ∧
    Gen.Search.segGet bases off = SegSearch.get bases off :=
  ⟨Klev.indexGet_tie items off, Klev.segGet_tie bases off⟩

end Klev.C04

/-! ### Non-vacuity: the theorems at the witness log `Witness.wL`, its derived index
`Witness.wIdx` (offsets 0 1 2 4 5 6 8) and its segment bases `[0, 2, 5, 8]` -/
section NonVacuity
open Klev Klev.Witness

example := Klev.C04.get_ok wL wL_inv 4
example := Klev.C04.get_ok wL wL_inv 3
example := Klev.C04.get_ok wL wL_inv offsetNewest
example := Klev.C04.index_get_spec wIdx 5 wIdx_sortedOff
example := Klev.C04.segment_get_spec (bases wL) 6 wL_bases_sorted (by decide +kernel) (by decide +kernel) (by decide +kernel)

-- evaluated: a live message; the hole inside segment 2; the deleted tail of segment 5; not
-- assigned yet; the two relative offsets; another negative offset
example : (wL.get 4).2 = .ok ⟨4, 30, [6], []⟩ ∧ (wL.get 3).2 = .err .notFound ∧
    (wL.get 7).2 = .err .notFound ∧ (wL.get 9).2 = .err .invalidOffset ∧
    (wL.get offsetOldest).2 = .ok ⟨0, 10, [1], [1]⟩ ∧ (wL.get offsetNewest).2 = .ok ⟨8, 50, [2], [8]⟩ ∧
    (wL.get (-5)).2 = .err .invalidOffset := by decide +kernel
example : Index.get wIdx 5 = .ok 159 ∧ Index.get wIdx 3 = .error .notFound := by decide +kernel
example : SegSearch.get (bases wL) 6 = .ok (.ok 2) := by decide +kernel

end NonVacuity

#print axioms Klev.C04.get_ok
#print axioms Klev.C04.index_get_spec
#print axioms Klev.C04.segment_get_spec
#print axioms Klev.C04.search_tie_get
