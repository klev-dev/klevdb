/-
C11 — Index files are derived data: always consistent, always rebuildable.
-/
import Klev.Proofs.Reach
import Klev.Proofs.ExtRun
import Klev.Proofs.Witness
namespace Klev.C11

/-- In every state reached by any history, every index — the file of **every** segment, not
only the newest, and every index in memory — lists exactly the offsets and byte positions
of the records of its segment, in order (`ItemsFor`). -/
theorem index_files_name_records (l : Log) (hinv : Inv l) (ops : List Op) :
    ∀ s ∈ (runOps l ops).segs,
      (∀ f, s.idxf = some f → ItemsFor s.ver s.recs f.items) ∧
      (∀ its, s.mem = some its → ItemsFor s.ver s.recs its) := by
  intro s hs
  have := (Klev.run_inv_abs l hinv ops).1.idx s hs
  exact ⟨this.idx, this.mem⟩

/-- Removing any subset of index files while closed and reopening (read-write or read-only,
any options) yields a log with the invariant and the same content — hence, by the read
theorems (C03, C04, C09, C10), the same answers to every query. -/
theorem reopen_without_index (l : Log) (hinv : Inv l) (rm : List Int) (oo : OpenOpts) :
    Inv (stepOp l (.reopen rm none false oo)) ∧ abs (stepOp l (.reopen rm none false oo)) = abs l :=
  Klev.step_inv_abs l hinv (.reopen rm none false oo)

/-- A rebuilt index is the derived one, and the derived one names the records. -/
theorem rebuilt_index_exact (p : Params) (v : Ver) (recs : List Msg) : ItemsFor v recs (derive p v recs) :=
  Klev.derive_itemsFor p v recs

/-- "key hashes always": with the key index configured, over any history that keeps the index
configuration, every index file and every loaded index of every segment carries the FNV-1a hashes of
exactly its segment's keys. -/
theorem index_files_key_hashes (l : Log) (hinv : Inv l) (hki : KeysInv' l) (ops : List Op)
    (hsame : SameParams l.opts.params ops) : KeysInv' (runOps l ops) :=
  Klev.keysInv'_run l hinv hki ops hsame

/-- "timestamps whenever message times never decrease": over any history whose publish times never
decrease (from the writer's carried time on), every index file and loaded index of every segment
carries exactly its segment's message times, and the content stays monotone. -/
theorem index_files_timestamps (l : Log) (hinv : Inv l) (hp : l.opts.params.times = true)
    (hti : TimesInv l) (hm : Spec.Monotone (abs l)) (hw : Int) (hc : TimeCarry l hw)
    (ops : List Op) (hsame : SameParams l.opts.params ops) (hmono : PubMono hw ops) :
    TimesInv (runOps l ops) ∧ Spec.Monotone (abs (runOps l ops)) :=
  Klev.times_run l hinv hp hti hm ops hsame
    (Klev.timesOKRun_of_pubMono l hinv hp hti hm hw hc ops hsame hmono)

end Klev.C11

/-! ### Non-vacuity: the theorems at the witness log `Witness.wL` (four segments, bases 0 2 5 8;
`Klev/Proofs/Witness.lean`) -/
section NonVacuity
open Klev Klev.Witness

example := Klev.C11.index_files_name_records l0 l0_inv ops
example := Klev.C11.index_files_name_records wL wL_inv [.reopen [0, 5] none false oo, .get 6, .delete [5]]
-- all four index files removed, reopened read-write and read-only
example := Klev.C11.reopen_without_index wL wL_inv [0, 2, 5, 8] oo
example := Klev.C11.reopen_without_index wL wL_inv [0, 2, 5, 8] ooRO

-- evaluated: after the removal only the head has an index file again (the writer creates it);
-- the lookups answer as before and rebuild the files they use
example : (stepOp wL (.reopen [0, 2, 5, 8] none false oo)).segs.map (·.idxf.isSome) = [false, false, false, true] ∧
    ((stepOp wL (.reopen [0, 2, 5, 8] none false oo)).get 4).2 = (wL.get 4).2 ∧
    ((stepOp wL (.reopen [0, 2, 5, 8] none false oo)).getByKey [1]).2 = (wL.getByKey [1]).2 ∧
    ((stepOp wL (.reopen [0, 2, 5, 8] none false oo)).getByTime 20).2 = (wL.getByTime 20).2 ∧
    ((stepOp wL (.reopen [0, 2, 5, 8] none false oo)).getByTime 20).1.segs.map (·.idxf.isSome) =
      [true, true, true, true] := by decide +kernel
example : (stepOp wL (.reopen [0, 2, 5, 8] none false ooRO)).opts.readonly = true ∧
    ((stepOp wL (.reopen [0, 2, 5, 8] none false ooRO)).consume 2 3).2 = (wL.consume 2 3).2 := by decide +kernel

-- the two index-content theorems over the witness history (from the empty directory)
example := Klev.C11.index_files_key_hashes l0 l0_inv (fun _ => Klev.keysInv_open_empty oo l0 open_l0) ops ops_same
example := Klev.C11.index_files_timestamps l0 l0_inv rfl (Klev.timesInv_open_empty oo l0 open_l0)
  (by rw [l0_abs]; exact Klev.monotone_empty) 0 l0_carry ops ops_same ops_mono

end NonVacuity

#print axioms Klev.C11.index_files_name_records
#print axioms Klev.C11.reopen_without_index
#print axioms Klev.C11.rebuilt_index_exact
#print axioms Klev.C11.index_files_key_hashes
#print axioms Klev.C11.index_files_timestamps
