/-
C17 — Format migration and mixed-version logs preserve every message.

The abstraction `abs` ignores versions, so "a mixed-version log behaves like a
single-version one" is the refinement itself: every read theorem (C03, C04, C09, C10) is
stated over `abs` and holds whatever the versions of the segments are.
-/
import Klev.Proofs.Reach
import Klev.Proofs.CrashProofs
import Klev.Proofs.Witness
namespace Klev.C17

/-- Package-level Migrate to either version while closed, and reopening with any version
options (NewSegmentsVersion, KeepRewriteVersion, EagerVersionMigrate): the invariant
holds and neither the live sequence nor NextOffset changes. -/
theorem migrate_keeps_content (l : Log) (hinv : Inv l) (rm : List Int) (v : Ver) (rec : Bool) (oo : OpenOpts) :
    Inv (stepOp l (.reopen rm (some v) rec oo)) ∧ abs (stepOp l (.reopen rm (some v) rec oo)) = abs l :=
  Klev.step_inv_abs l hinv (.reopen rm (some v) rec oo)

/-- Delete-by-rewrite, with or without KeepRewriteVersion and whatever NewSegmentsVersion
is: exactly the reported messages go, NextOffset stays (`DeleteOK` does not mention
versions; the theorem holds for all option values). -/
theorem rewrite_keeps_content (l : Log) (hinv : Inv l) (offs : List Int) :
    Inv (l.delete offs).1 ∧
    Spec.DeleteOK l.opts.readonly l.opts.params (abs l) offs (l.delete offs).2 (abs (l.delete offs).1) :=
  Klev.delete_step l hinv offs

/-- After a migration every log file is in the target version. -/
theorem migrate_versions (p : Params) (v : Ver) (d : List SegDisk) :
    ∀ sd ∈ d.map (segMigrate p v v), sd.ver = v := by
  intro sd hsd
  obtain ⟨sd0, _, rfl⟩ := List.mem_map.mp hsd
  unfold segMigrate
  split
  · assumption
  · rfl

/-- Migrating twice is the same as once. -/
theorem migrate_idempotent (p : Params) (v : Ver) (sd : SegDisk) :
    segMigrate p v v (segMigrate p v v sd) = segMigrate p v v sd := by
  unfold segMigrate
  split <;> simp

/-- A rewritten segment takes the source version with KeepRewriteVersion and
NewSegmentsVersion otherwise (the version handed to `rewrite` in `Log.delete`). -/
theorem rewrite_version (p : Params) (s : Seg) (offs : List Int) (mv : Ver) :
    (rewrittenSeg p (rewrite p s offs mv mv)).ver = mv := rfl

open Klev.Crash in
/-- **Versions after a Delete**, on the files: every segment file afterwards is a file that was
there before (untouched, version included), or the new empty head (in NewSegmentsVersion, log and
index), or the rewritten segment — survivors of one old segment `x`, in `x`'s own version with
KeepRewriteVersion and in NewSegmentsVersion without, index file in the same version. -/
theorem delete_versions (l : Log) (hrw : l.opts.readonly = false) (offs : List Int) :
    ∀ sd ∈ (l.delete offs).1.disk,
      sd ∈ l.disk ∨
      (sd.recs = [] ∧ sd.ver = l.opts.nsv ∧ sd.idxf = some ⟨l.opts.nsv, []⟩) ∨
      (∃ x ∈ l.disk, sd.recs.Sublist x.recs ∧ sd.ver = (if l.opts.keep then x.ver else l.opts.nsv) ∧
        ∃ f, sd.idxf = some f ∧ f.ver = sd.ver) := by
  intro sd hsd
  rcases delete_disk l hrw offs with ⟨_, hl⟩ | ⟨PRE, x, POST0, rw, nh, hd, _, hres, _, _, hsub, hver, hiver⟩
  · left; rw [hl] at hsd; exact hsd
  · rw [hres] at hsd
    have hx : x ∈ l.disk := by rw [hd]; simp
    rcases List.mem_append.mp hsd with h | h
    · left; rw [hd]; exact List.mem_append_left _ h
    · rcases List.mem_append.mp h with h | h
      · -- the rewritten segment
        right; right
        unfold fin at h
        split at h
        · cases h
        · simp only [List.mem_singleton] at h
          subst h
          exact ⟨x, hx, hsub, hver, ⟨rw.iver, _⟩, rfl, hiver⟩
      · rcases List.mem_append.mp h with h | h
        · left; rw [hd]; exact List.mem_append_right _ (List.mem_cons_of_mem _ h)
        · -- the new head
          split at h
          · simp only [List.mem_singleton] at h
            subst h
            right; left
            exact ⟨rfl, rfl, rfl⟩
          · cases h

/-- **New segments are in NewSegmentsVersion**: the segment a rollover creates (log file and index file). -/
theorem rollover_version (l : Log) (h : Seg) (hl : l.segs.getLast? = some h)
    (hr : needsRollover l.opts h = true) :
    ∃ r, l.rollover.segs.getLast? = some r ∧ r.recs = [] ∧ r.ver = l.opts.nsv ∧
      r.idxf = some ⟨l.opts.nsv, []⟩ := by
  rw [rollover_of_needs hl hr]
  exact ⟨freshSeg l.opts l.wNextOff, List.getLast?_concat .., rfl, rfl, rfl⟩

end Klev.C17

/-! ### Non-vacuity: the theorems at the witness log `Witness.wL` (four V2 segments;
`Klev/Proofs/Witness.lean`) -/
section NonVacuity
open Klev Klev.Witness

-- package-level Migrate to V1 while closed (index file of segment 0 removed, Recover run), reopened
-- with the original options; and a reopen with EagerVersionMigrate / NewSegmentsVersion = V1
example := Klev.C17.migrate_keeps_content wL wL_inv [0] .v1 true oo
example := Klev.C17.migrate_keeps_content wL wL_inv [] .v2 false
  ⟨⟨false, ⟨true, true⟩, false, 60, Ver.v1, false⟩, false, false, true⟩
example := Klev.C17.rewrite_keeps_content wL wL_inv [4, 5]
-- Delete-by-rewrite under KeepRewriteVersion with NewSegmentsVersion = V1, on a mixed-version log
example := Klev.C17.rewrite_keeps_content
  (runOps wL [.reopen [] none false ⟨⟨false, ⟨true, true⟩, false, 60, Ver.v1, true⟩, false, false, false⟩,
    .publish [(60, [9], [9]), (61, [], [])], .publish [(62, [1], [0])]])
  (Klev.run_inv_abs wL wL_inv _).1 [4]

-- versions on the files after a Delete (mixed-version witness: keep = true, nsv = V1) and of a rolled-over head
example := Klev.C17.delete_versions wL wL_rw [4, 5]
example : ((wL.delete [4, 5]).1.disk.map (·.ver), wL.disk.map (·.ver)) = ([.v2, .v2, .v2, .v2], [.v2, .v2, .v2, .v2]) := by decide +kernel

-- evaluated: all log files in V1 afterwards, same content
example : (stepOp wL (.reopen [0] (some .v1) true oo)).segs.map (·.ver) = [.v1, .v1, .v1, .v1] ∧
    (abs (stepOp wL (.reopen [0] (some .v1) true oo))).live = (abs wL).live ∧
    (abs (stepOp wL (.reopen [0] (some .v1) true oo))).next = 9 := by decide +kernel
-- a mixed-version log (NewSegmentsVersion = V1, KeepRewriteVersion): the new segment is V1, the
-- rewritten segment 2 keeps V2; lookups go across versions
example :
    let mixed := runOps wL [.reopen [] none false ⟨⟨false, ⟨true, true⟩, false, 60, Ver.v1, true⟩, false, false, false⟩,
      .publish [(60, [9], [9]), (61, [], [])], .publish [(62, [1], [0])], .delete [4]]
    mixed.segs.map (fun s => (s.base, s.ver, s.recs.map (·.off))) =
      [(0, .v2, [0, 1]), (2, .v2, [2]), (5, .v2, [5, 6]), (8, .v2, [8, 9, 10]), (11, .v1, [11])] ∧
    (mixed.getByKey [1]).2 = .ok ⟨11, 62, [1], [0]⟩ ∧
    (mixed.consume 9 10).2 = .ok (11, [⟨9, 60, [9], [9]⟩, ⟨10, 61, [], []⟩]) := by decide +kernel

end NonVacuity

#print axioms Klev.C17.migrate_keeps_content
#print axioms Klev.C17.rewrite_keeps_content
#print axioms Klev.C17.migrate_versions
#print axioms Klev.C17.migrate_idempotent
#print axioms Klev.C17.rewrite_version
#print axioms Klev.C17.delete_versions
#print axioms Klev.C17.rollover_version
