/-
C18 — Blocking consume wakes for every publish and never for nothing.

`ConsumeBlocking` = `notify.Wait` then `Consume`; `Publish` = `Log.Publish` then
`notify.Set(next)`; `Close` = `notify.Close` then `Log.Close` (regenerated structural facts,
below). The notifier is modelled as an interleaving semantics over the instruction lists
that the translator T2 regenerates from pkg/notify/notify.go; the theorems quantify over
every schedule (`List Ev`: any number of waiters, setters, closers, cancellations, any
interleaving of their instructions) — no bound on threads or steps.
-/
import Klev.Proofs.NotifyProofs
import Klev.Gen.Notify
import Klev.Gen.Facts
namespace Klev.C18
open Klev.Notify

/-- The proofs are about the programs of the current source. -/
theorem notify_prog_eq :
    Gen.waitProg = waitProg ∧ Gen.setProg = setProg ∧ Gen.closeProg = closeProg ∧
    Gen.barrierCapOneWithToken = true := by decide

/-- The blocking wrapper composes the notifier with the plain calls as assumed. -/
theorem source_facts :
    Gen.blockingWaitThenRead = true ∧ Gen.blockingPublishThenSet = true ∧
    Gen.blockingCloseNotifierFirst = true ∧ Gen.blockingStartsAtNextOffset = true ∧
    -- the typed wrapper (typed_blocking.go) composes the same way
    Gen.typedBlockingWaitThenRead = true ∧ Gen.typedBlockingPublishThenSet = true ∧
    Gen.typedBlockingCloseNotifierFirst = true ∧ Gen.typedBlockingStartsAtNextOffset = true := by decide

/-- "return immediately when the offset is below NextOffset or relative": the first
instruction returns nil without touching shared state (relative offsets are negative and the
notifier's offset is never negative). -/
theorem immediate (s : St) (t : Th) (off : Int) (hk : t.kind = .wait off) (hpc : t.pc = 0)
    (hd : t.done = false) (h : s.next > off) :
    stepTh s t = some (s, { t with res := some .nil }) :=
  Klev.Notify.immediate s t off hk hpc hd h

/-- "stay blocked as long as no Publish, Close or context end occurs": a parked waiter stays
parked under every event except the `close(b)` instruction of a Set/Close thread holding its
channel, and its own cancellation. -/
theorem stays_parked (c : Cfg) (e : Ev) (i : Nat) (t : Th) (hi : c.ths[i]? = some t)
    (hp : Parked c.st t) (hd : t.done = false)
    (hnotWake : ∀ (j : Nat) (u : Th), e = .step j → c.ths[j]? = some u →
      (u.kind = .close ∨ ∃ n, u.kind = .set n) → (progOf u.kind)[u.pc]? = some .closeB → u.b ≠ t.b)
    (hnotCancel : e ≠ .cancel i) :
    (stepCfg c e).ths[i]? = some t ∧ Parked (stepCfg c e).st t := by
  obtain ⟨off, ch, hk, hpc, hb, hnc, hcd⟩ := hp
  -- the channel stays open
  have hopen : ch ∉ (stepCfg c e).st.closedCh := by
    intro hin
    obtain ⟨j, u, he, hj, hku, hpcu, hbu, _⟩ := woken_only_by_set_close c e ch hin hnc
    exact hnotWake j u he hj hku hpcu (by rw [hbu, hb])
  have hstep : stepTh c.st t = none := by
    rw [parked_step c.st t off ch hk hpc hb hd, if_neg hnc]
    simp [hcd]
  have hths : (stepCfg c e).ths[i]? = some t := by
    refine stepCfg_ind (motive := fun c' => c'.ths[i]? = some t) c e hi ?_ ?_ ?_
    · intro j u s' u' _ hj hs
      refine get_set_ne (fun hij => ?_) hi
      subst hij
      cases hj.symm.trans hi
      cases hs.symm.trans hstep
    · intro j u he _
      exact get_set_ne (fun hij => hnotCancel (hij ▸ he)) hi
    · intro k _
      exact get_append_left hi
  exact ⟨hths, off, ch, hk, hpc, hb, hopen, hcd⟩

/-- "every Publish that moves NextOffset past the offset wakes them": in every reachable
configuration, a parked waiter whose offset has been passed — once the setters in flight have
finished — is enabled and its next step returns nil. -/
theorem no_lost_wakeup (n : Int) (evs : List Ev) (i : Nat) (t : Th) (off : Int)
    (hi : (run (init n) evs).ths[i]? = some t) (hk : t.kind = .wait off) (hpc : t.pc = 6)
    (hd : t.done = false)
    (hquiet : ∀ (j : Nat) (u : Th), (run (init n) evs).ths[j]? = some u → u.done = false →
      (∃ o, u.kind = .wait o) ∨ u.pc = 0)
    (hnext : (run (init n) evs).st.next > off) :
    enabled (run (init n) evs) i = true ∧ ∃ ch, t.b = some ch ∧ ch ∈ (run (init n) evs).st.closedCh ∧
      stepTh (run (init n) evs).st t = some ((run (init n) evs).st, { t with res := some .nil }) :=
  Klev.Notify.no_lost_wakeup n evs i t off hi hk hpc hd hquiet hnext

/-- … and a setter in flight always can finish (it is never blocked once it holds the token)
and closes the waiters' channel within three of its own steps. -/
theorem setter_closes (n : Int) (evs : List Ev) (j : Nat) (u : Th) (ch : Nat)
    (hj : (run (init n) evs).ths[j]? = some u) (hm : SetterMid u ch) :
    enabled (run (init n) evs) j = true ∧
      ch ∈ (run (init n) (evs ++ [.step j, .step j, .step j])).st.closedCh :=
  Klev.Notify.setter_closes n evs j u ch hj hm

/-- A waiter past its probe whose offset is already passed is never left behind: its channel
is closed, or a setter that will close it is in flight. -/
theorem parked_not_passed (n : Int) (evs : List Ev) (i : Nat) (t : Th) (off : Int) (ch : Nat)
    (hi : (run (init n) evs).ths[i]? = some t) (hk : t.kind = .wait off)
    (hpc : t.pc = 4 ∨ t.pc = 5 ∨ t.pc = 6) (hd : t.done = false) (hu : t.upd = false) (hb : t.b = some ch) :
    ch ∈ (run (init n) evs).st.closedCh ∨ (run (init n) evs).st.next ≤ off ∨
      ∃ (j : Nat) (t' : Th), (run (init n) evs).ths[j]? = some t' ∧ (∃ m, t'.kind = .set m) ∧ t'.b = some ch ∧
        (t'.pc = 1 ∨ t'.pc = 2 ∨ t'.pc = 3) ∧ t'.done = false :=
  Klev.Notify.parked_not_passed n evs i t off ch hi hk hpc hd hu hb

/-- "a cancelled context yields its error". -/
theorem cancel_returns (s : St) (t : Th) (off : Int) (ch : Nat) (hk : t.kind = .wait off)
    (hpc : t.pc = 6) (hb : t.b = some ch) (hd : t.done = false) (hc : t.ctxDone = true)
    (hnc : ch ∉ s.closedCh) : stepTh s t = some (s, { t with res := some .ctxErr }) :=
  Klev.Notify.cancel_returns s t off ch hk hpc hb hd hc hnc

/-- "a wait at or beyond NextOffset that starts after Close fails". -/
theorem wait_after_close_fails (s : St) (off : Int) (hb : s.barrier = .closed) (hn : ¬ s.next > off) :
    run ⟨s, [{ kind := .wait off }]⟩ [.step 0, .step 0, .step 0]
      = ⟨s, [{ kind := .wait off, pc := 2, res := some .errClosed }]⟩ :=
  Klev.Notify.wait_after_close_fails s off hb hn

/-- No schedule panics (send on / close of a closed channel, double close) … -/
theorem no_panic (n : Int) (evs : List Ev) : (run (init n) evs).st.panicked = false :=
  Klev.Notify.no_panic n evs

/-- … or deadlocks: while some call is unfinished and not legitimately parked, some thread can move. -/
theorem no_deadlock (n : Int) (evs : List Ev) (i : Nat) (t : Th)
    (hi : (run (init n) evs).ths[i]? = some t) (hd : t.done = false)
    (hnp : ¬ Parked (run (init n) evs).st t) : ∃ j, enabled (run (init n) evs) j = true :=
  Klev.Notify.no_deadlock n evs i t hi hd hnp

/-- The notifier's offset never moves backwards. -/
theorem next_monotone (n : Int) (evs evs' : List Ev) :
    (run (init n) evs).st.next ≤ (run (init n) (evs ++ evs')).st.next :=
  Klev.Notify.next_monotone_reach n evs evs'

/-- Non-vacuity: a waiter parks, a Set passes its offset, the waiter is enabled and returns nil. -/
example :
    let c := run (init 5) [.spawn (.wait 5), .step 0, .step 0, .step 0, .step 0, .step 0, .step 0]
    enabled c 0 = false ∧
    let c' := run c [.spawn (.set 10), .step 1, .step 1, .step 1, .step 1, .step 1, .step 1]
    c'.st.next = 10 ∧ enabled c' 0 = true ∧ ((run c' [.step 0]).ths[0]?.map (·.res)) = some (some .nil) := by
  decide +kernel

end Klev.C18

/-! ### Non-vacuity

The theorems at the concrete run of `Klev/Proofs/NotifyProofs.lean`: `Wait(5)` on a notifier at 0
parks on channel 0 (`demoPark`), then `Set(10)` runs (`demoSet`). -/
section NonVacuity
open Klev.Notify

example := Klev.C18.immediate (initSt 10) { kind := .wait 5 } 5 rfl rfl rfl (by decide +kernel)
-- the parked waiter stays parked when a setter is spawned and when that setter takes its first
-- step (`recvBarrier`, not `close(b)`)
example := Klev.C18.stays_parked (run (init 0) demoPark) (.spawn (.set 10)) 0
  { kind := .wait 5, pc := 6, b := some 0, ok := true } (by decide +kernel)
  ⟨5, 0, rfl, rfl, rfl, by decide +kernel, rfl⟩ rfl (fun _ _ he => nomatch he) (by decide +kernel)
example := Klev.C18.stays_parked (run (init 0) (demoPark ++ [.spawn (.set 10)])) (.step 1) 0
  { kind := .wait 5, pc := 6, b := some 0, ok := true } (by decide +kernel)
  ⟨5, 0, rfl, rfl, rfl, by decide +kernel, rfl⟩ rfl
  (by
    intro j u he hj _ hpc
    cases he
    have h1 : (run (init 0) (demoPark ++ [.spawn (.set 10)])).ths[1]? = some { kind := .set 10 } := by decide +kernel
    rw [h1] at hj
    cases hj
    exact absurd hpc (by decide +kernel))
  (by decide +kernel)
-- after the Set has finished the waiter (offset 5 < 10) is enabled and returns nil
example := Klev.C18.no_lost_wakeup 0 (demoPark ++ demoSet) 0
  { kind := .wait 5, pc := 6, b := some 0, ok := true } 5 (by decide +kernel) rfl rfl rfl
  (by
    have hths : (run (init 0) (demoPark ++ demoSet)).ths =
        [{ kind := .wait 5, pc := 6, b := some 0, ok := true },
         { kind := .set 10, pc := 5, b := some 0, ok := true, res := some .none_ }] := by decide +kernel
    intro j u hj hd
    rw [hths] at hj
    match j, hj with
    | 0, hj => cases hj; exact Or.inl ⟨5, rfl⟩
    | 1, hj => cases hj; exact absurd hd (by decide +kernel)
    | j + 2, hj => exact absurd hj (by simp))
  (by decide +kernel)
-- the setter holding channel 0 (after its `recvBarrier`) closes it within three steps
example := Klev.C18.setter_closes 0 (demoPark ++ [.spawn (.set 10), .step 1]) 1
  { kind := .set 10, pc := 1, b := some 0, ok := true } 0 (by decide +kernel)
  ⟨⟨10, rfl⟩, rfl, by decide +kernel, by decide +kernel, rfl⟩
example := Klev.C18.parked_not_passed 0 demoPark 0 { kind := .wait 5, pc := 6, b := some 0, ok := true } 5 0
  (by decide +kernel) rfl (Or.inr (Or.inr rfl)) rfl rfl rfl
example := Klev.C18.cancel_returns (initSt 0) { kind := .wait 5, pc := 6, b := some 0, ok := true, ctxDone := true }
  5 0 rfl rfl rfl rfl rfl (by decide +kernel)
example := Klev.C18.wait_after_close_fails { next := 0, barrier := .closed, closedCh := [0], fresh := 1 } 5 rfl
  (by decide +kernel)
-- the freshly spawned setter is unfinished and not parked: some thread can move
example := Klev.C18.no_deadlock 0 (demoPark ++ [.spawn (.set 10)]) 1 { kind := .set 10 } (by decide +kernel) rfl
  (fun ⟨_, _, hk, _⟩ => nomatch hk)

end NonVacuity

#print axioms Klev.C18.notify_prog_eq
#print axioms Klev.C18.source_facts
#print axioms Klev.C18.immediate
#print axioms Klev.C18.stays_parked
#print axioms Klev.C18.no_lost_wakeup
#print axioms Klev.C18.setter_closes
#print axioms Klev.C18.parked_not_passed
#print axioms Klev.C18.cancel_returns
#print axioms Klev.C18.wait_after_close_fails
#print axioms Klev.C18.no_panic
#print axioms Klev.C18.no_deadlock
#print axioms Klev.C18.next_monotone
