/-
C14 — A damaged record is never returned as data.
-/
import Klev.Proofs.CrcAlgebra
import Klev.Proofs.ScanProofs
import Klev.Proofs.Damage
import Klev.Proofs.DamageFile
import Klev.Proofs.TornAppend
import Klev.Proofs.WitnessBytes
namespace Klev.C14

/-- Any change confined to at most 4 consecutive bytes of the bytes a CRC covers changes the
CRC-32C — unconditionally (algebra of the register: the bit step is GF(2)-linear and
injective because the reflected polynomial has its top bit set). So an overwrite of ≤ 4
bytes inside offset / time / key / value / trailer of a V2 record, or inside key/value of a
V1 record, is always detected by the checksum comparison. -/
theorem small_damage_changes_crc (pre post d1 d2 : List UInt8) (hl : d1.length = d2.length)
    (h4 : d1.length ≤ 4) (hne : d1 ≠ d2) :
    crc32c (pre ++ d1 ++ post) ≠ crc32c (pre ++ d2 ++ post) :=
  Klev.crc_burst4 pre post d1 d2 hl h4 hne

/-- A single damaged byte (in particular any single-bit flip) is always detected. -/
theorem single_byte_changes_crc (pre post : List UInt8) (x y : UInt8) (h : x ≠ y) :
    crc32c (pre ++ x :: post) ≠ crc32c (pre ++ y :: post) :=
  Klev.crc_single_byte pre post x y h

/-- The CRC-32C model is the standard one (RFC 3720 test vector, `"123456789"` check value). -/
theorem crc_vectors :
    crc32c (List.replicate 32 0) = 0x8A9136AA#32 ∧
    crc32c [0x31,0x32,0x33,0x34,0x35,0x36,0x37,0x38,0x39] = 0xE3069283#32 :=
  ⟨Klev.crc32c_rfc3720_zeros, Klev.crc32c_check⟩

/-- A file cut inside a record header is an error, not an end of data. -/
theorem cut_in_header_is_error (v : Ver) (b : List UInt8) (pos : Nat) (h1 : pos < b.length)
    (h2 : b.length < pos + 28) : dec v b pos = .bad .shortHeader :=
  Klev.dec_shortHeader v b pos h1 h2

/-- **An overwritten V2 record is never returned as data** (≤ 4 consecutive bytes anywhere in
offset / time / key / value / trailer): the reader answers with a CRC error, whatever
surrounds the record in the file. (The CRC comparison comes before the trailer comparison.) -/
theorem v2_body_damage (pre post : List UInt8) (m : Msg) (h : m.Encodable)
    (a d1 d2 z : List UInt8) (hsplit : v2Body m = a ++ d1 ++ z)
    (hl : d1.length = d2.length) (h4 : d1.length ≤ 4) (hne : d1 ≠ d2)
    (hlenFields : a.length + d1.length ≤ 16 ∨ 24 ≤ a.length) :
    dec .v2 (pre ++ crcBytes (v2Body m) ++ (a ++ d2 ++ z) ++ post) pre.length = .bad .crc :=
  Klev.v2_body_damage pre post m h a d1 d2 z hsplit hl h4 hne hlenFields

/-- Any change of the stored checksum itself is detected. -/
theorem v2_crc_field_damage (pre post : List UInt8) (m : Msg) (h : m.Encodable) (c' : List UInt8)
    (hc : c'.length = 4) (hne : c' ≠ crcBytes (v2Body m)) :
    dec .v2 (pre ++ c' ++ v2Body m ++ post) pre.length = .bad .crc :=
  Klev.v2_crc_field_damage pre post m h c' hc hne

/-- Every single changed byte (hence every single-bit flip) outside the two length fields. -/
theorem v2_body_byte_damage (pre post : List UInt8) (m : Msg) (h : m.Encodable)
    (a z : List UInt8) (x y : UInt8) (hsplit : v2Body m = a ++ x :: z) (hxy : x ≠ y)
    (hlenFields : a.length + 1 ≤ 16 ∨ 24 ≤ a.length) :
    dec .v2 (pre ++ crcBytes (v2Body m) ++ (a ++ y :: z) ++ post) pre.length = .bad .crc :=
  Klev.v2_body_byte_damage pre post m h a z x y hsplit hxy hlenFields

/-- Records whose bytes were not touched read back identically whatever was done to the bytes
before (same length) and after them. -/
theorem untouched_record_reads_back (v : Ver) (pre pre' post post' : List UInt8) (m : Msg)
    (h : m.Encodable) (hp : pre'.length = pre.length) :
    dec v (pre' ++ enc v m ++ post') pre.length = .ok m (pre.length + (enc v m).length) :=
  Klev.untouched_record_reads_back v pre pre' post post' m h hp

/-- A file cut anywhere inside a record (both formats): end of data / short header / short
data, never a record. -/
theorem cut_record_never_parses (v : Ver) (pre : List UInt8) (m : Msg) (h : m.Encodable) (j : Nat)
    (hj : j < (enc v m).length) :
    ∀ m' n, dec v (pre ++ (enc v m).take j) pre.length ≠ .ok m' n :=
  Klev.torn_record_not_parsed v pre m h j hj

/-! ### the whole file, read through the intact positions of its index -/

/-- Every record of an undamaged V2 log reads back from the position its index holds. -/
theorem file_reads (ms : List Msg) (h : ∀ m ∈ ms, m.Encodable) (j : Nat) (hj : j < ms.length) :
    dec .v2 (render .v2 ms) (render .v2 (ms.take j)).length =
      .ok ms[j] (render .v2 (ms.take (j + 1))).length :=
  Klev.file_reads ms h j hj

/-- **One record overwritten in place** (≤ 4 consecutive bytes of its body outside the length fields): read
through the same positions, the overwritten record is an error and *every other record of the file reads back
unchanged* — "every read call whose answer would include an overwritten record fails … the others return
what they returned before", at the level of one segment file. -/
theorem damaged_file_reads (ms : List Msg) (h : ∀ m ∈ ms, m.Encodable) (i : Nat)
    (hi : i < ms.length) (a d1 d2 z : List UInt8) (hsplit : v2Body ms[i] = a ++ d1 ++ z)
    (hl : d1.length = d2.length) (h4 : d1.length ≤ 4) (hne : d1 ≠ d2)
    (hlenFields : a.length + d1.length ≤ 16 ∨ 24 ≤ a.length)
    (j : Nat) (hj : j < ms.length) :
    (damagedFile ms i hi a d2 z).length = (render .v2 ms).length ∧
    dec .v2 (damagedFile ms i hi a d2 z) (render .v2 (ms.take j)).length =
      if j = i then .bad .crc else .ok ms[j] (render .v2 (ms.take (j + 1))).length :=
  Klev.damaged_file_reads ms h i hi a d1 d2 z hsplit hl h4 hne hlenFields j hj

/-- The file cut short at any length: records wholly below the cut read back, the others never parse. -/
theorem truncated_file_reads (ms : List Msg) (h : ∀ m ∈ ms, m.Encodable) (c : Nat) (j : Nat)
    (hj : j < ms.length) :
    let f := (render .v2 ms).take c
    ((render .v2 (ms.take (j + 1))).length ≤ c →
      dec .v2 f (render .v2 (ms.take j)).length = .ok ms[j] (render .v2 (ms.take (j + 1))).length) ∧
    (c < (render .v2 (ms.take (j + 1))).length →
      ∀ m n, dec .v2 f (render .v2 (ms.take j)).length ≠ .ok m n) :=
  Klev.truncated_file_reads ms h c j hj

/-- **"no call ever returns a message that differs in any field from the one published at that offset"**:
in every file damaged in one of these ways (body burst, stored CRC, cut), whatever a read at the position of
record `j` returns as a message *is* record `j`. -/
theorem damaged_never_other (ms : List Msg) (h : ∀ m ∈ ms, m.Encodable) (f : List UInt8)
    (hf : FileDamage ms f) (j : Nat) (hj : j < ms.length) (m : Msg) (n : Nat)
    (hd : dec .v2 f (render .v2 (ms.take j)).length = .ok m n) :
    m = ms[j] ∧ n = (render .v2 (ms.take (j + 1))).length :=
  Klev.damaged_never_other ms h f hf j hj m n hd

end Klev.C14

/-! ### Non-vacuity

The theorems at concrete bytes: the message `Witness.wM` (offset 11, time −7, no key, value
`[9, 8, 7]`) and the seven messages `Witness.wMs` (`Klev/Proofs/WitnessBytes.lean`). (More
instances, with the decoder evaluated on the damaged bytes, are in `Klev/Proofs/Damage.lean`.) -/
section NonVacuity
open Klev Klev.Witness

example := Klev.C14.small_damage_changes_crc [1, 2, 3] [4, 5] [10, 11, 12, 13] [10, 99, 12, 14] rfl
  (by decide +kernel) (by decide +kernel)
example := Klev.C14.single_byte_changes_crc [1, 2] [3] 5 7 (by decide +kernel)
-- three stray bytes behind the 273 bytes of seven valid records
example := Klev.C14.cut_in_header_is_error .v2 (render .v2 wMs ++ [1, 2, 3]) 273
  (by rw [List.length_append, wMs_len]; decide +kernel) (by rw [List.length_append, wMs_len]; decide +kernel)
-- the value `[9, 8, 7]` overwritten by `[9, 8, 6]` (body bytes 24–26; `a` = the 24 fixed bytes)
example := Klev.C14.v2_body_damage [7, 7] [5] wM wM_enc ((v2Body wM).take 24) [9, 8, 7] [9, 8, 6]
  ((v2Body wM).drop 27) (by decide +kernel) rfl (by decide +kernel) (by decide +kernel) (Or.inr (by decide +kernel))
-- the two low bytes of the time field (body bytes 14–15)
example := Klev.C14.v2_body_damage [] [] wM wM_enc ((v2Body wM).take 14) [255, 249] [0, 0]
  ((v2Body wM).drop 16) (by decide +kernel) rfl (by decide +kernel) (by decide +kernel) (Or.inl (by decide +kernel))
example := Klev.C14.v2_crc_field_damage [7, 7] [5] wM wM_enc [0, 0, 0, 0] rfl (by decide +kernel)
-- the low byte of the offset (body byte 7): 11 → 10
example := Klev.C14.v2_body_byte_damage [7, 7] [5] wM wM_enc ((v2Body wM).take 7) ((v2Body wM).drop 8) 11 10
  (by decide +kernel) (by decide +kernel) (Or.inl (by decide +kernel))
example := Klev.C14.untouched_record_reads_back .v2 [1, 2, 3] [9, 9, 9] [4] [8, 8] wM wM_enc rfl
example := Klev.C14.cut_record_never_parses .v1 (render .v1 wMs) wM wM_enc 30 (by rw [wM_len.2]; decide +kernel)

-- evaluated: the decoder on the damaged record
example : dec .v2 ([7, 7] ++ crcBytes (v2Body wM) ++ ((v2Body wM).take 24 ++ [9, 8, 6] ++ (v2Body wM).drop 27) ++ [5]) 2 =
    .bad .crc := by decide +kernel
example : crc32c ([1, 2, 3] ++ [10, 11, 12, 13] ++ [4, 5]) ≠ crc32c ([1, 2, 3] ++ [10, 99, 12, 14] ++ [4, 5]) := by
  decide +kernel

end NonVacuity

#print axioms Klev.C14.small_damage_changes_crc
#print axioms Klev.C14.single_byte_changes_crc
#print axioms Klev.C14.crc_vectors
#print axioms Klev.C14.cut_in_header_is_error
#print axioms Klev.C14.v2_body_damage
#print axioms Klev.C14.v2_crc_field_damage
#print axioms Klev.C14.v2_body_byte_damage
#print axioms Klev.C14.untouched_record_reads_back
#print axioms Klev.C14.cut_record_never_parses
#print axioms Klev.C14.file_reads
#print axioms Klev.C14.damaged_file_reads
#print axioms Klev.C14.truncated_file_reads
#print axioms Klev.C14.damaged_never_other
