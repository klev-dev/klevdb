/-
C19 — One writer at a time; read-only handles never modify data.
-/
import Klev.Proofs.FlockProofs
import Klev.Proofs.Reach
import Klev.Gen.Facts
import Klev.Proofs.Witness
namespace Klev.C19

/-- Structural facts of the current source (regenerated on every run by go/ast): `Open`
registers a deferred release of the lock for every error exit, `Close` releases it, and
`Publish` / `Delete` test `Readonly` first. A source change that falsifies one of them
breaks this obligation. -/
theorem source_facts :
    Gen.openReleasesLockOnError = true ∧ Gen.closeReleasesLock = true ∧ Gen.readonlyGuards = true := by
  decide

/-- Over every sequence of opens (succeeding, refused, or failing after the lock was taken)
and closes: never more than one read-write handle, and a read-write handle coexists with no
read-only one. -/
theorem exclusion (ops : List LockOp) : LockInv (lockRun true ⟨0, 0⟩ ops) :=
  Klev.lockRun_inv ⟨0, 0⟩ ops ⟨by simp, by simp⟩

/-- While a read-write handle is open every other Open (either mode) fails and changes nothing. -/
theorem open_fails_while_writer (s : LockSt) (h : s.writers = 1) (lf : Bool) :
    (lockStep true s (.openRW lf)).2 = .locked ∧ (lockStep true s (.openRO lf)).2 = .locked ∧
    (lockStep true s (.openRW lf)).1 = s ∧ (lockStep true s (.openRO lf)).1 = s := by
  unfold lockStep
  simp [h]

/-- While only read-only handles are open, read-only opens succeed and read-write opens fail. -/
theorem readers_admit_readers (s : LockSt) (hw : s.writers = 0) (hr : 0 < s.readers) :
    (lockStep true s (.openRW false)).2 = .locked ∧ (lockStep true s (.openRO false)).2 = .ok :=
  Klev.readers_admit_readers s hw hr

/-- The lock is released by a failed Open … -/
theorem failed_open_releases (s : LockSt) :
    (lockStep Gen.openReleasesLockOnError s (.openRW true)).1 = s ∧
    (lockStep Gen.openReleasesLockOnError s (.openRO true)).1 = s := by
  have : Gen.openReleasesLockOnError = true := rfl
  rw [this]
  unfold lockStep
  constructor
  · by_cases hc : s.writers = 0 ∧ s.readers = 0 <;> simp [hc]
  · by_cases hc : s.writers = 0 <;> simp [hc]

/-- … and by Close. -/
theorem close_releases (s : LockSt) (hi : LockInv s) (h : s.writers = 1) :
    (lockStep true (lockStep true s .closeRW).1 (.openRW false)).2 = .ok := by
  unfold lockStep
  simp [h, hi.2 h]

/-- A read-only handle rejects Publish and Delete with `ErrReadonly` and changes nothing. -/
theorem readonly_rejects (l : Log) (hro : l.opts.readonly = true) (batch : List (Int × List UInt8 × List UInt8))
    (offs : List Int) :
    l.publish batch = (l, .err .readonly) ∧ l.delete offs = (l, .err .readonly) := by
  unfold Log.publish Log.delete
  simp [hro]

/-- A read-only handle answers like a read-write one on the same files: opening the same
clean directory in either mode gives logs with the same content (and the read theorems
are functions of the content). -/
theorem readonly_same_content (d : List SegDisk) (hd : DiskOK d) (oo1 oo2 : OpenOpts) (l1 l2 : Log)
    (h1 : Log.open d oo1 = .ok l1) (h2 : Log.open d oo2 = .ok l2) :
    Inv l1 ∧ Inv l2 ∧ abs l1 = abs l2 := by
  obtain ⟨a1, a2, _⟩ := open_spec d hd oo1 l1 h1
  obtain ⟨b1, b2, _⟩ := open_spec d hd oo2 l2 h2
  exact ⟨a1, b1, a2.trans b2.symm⟩

/-- Reads through any handle never change the records of any segment (only indexes are
loaded or rebuilt): the log files are untouched. -/
theorem reads_keep_log_files (l : Log) (hinv : Inv l) (off : Int) (mc : Nat) :
    shape (l.consume off mc).1.segs = shape l.segs ∧ shape (l.get off).1.segs = shape l.segs :=
  ⟨(consume_loaded l hinv off mc).shape, (get_loaded l hinv off).shape⟩

end Klev.C19

/-! ### Non-vacuity

The lock theorems at concrete lock states; the handle theorems at the files of the witness log
`Witness.wL` opened read-only with Check (`Witness.wRO`) and read-write with Recover
(`Witness.wRW`) (`Klev/Proofs/Witness.lean`). -/
section NonVacuity
open Klev Klev.Witness

example := Klev.C19.open_fails_while_writer ⟨1, 0⟩ rfl true
example := Klev.C19.readers_admit_readers ⟨0, 2⟩ rfl (by decide +kernel)
example := Klev.C19.close_releases ⟨1, 0⟩ (by unfold LockInv; decide +kernel) rfl
example := Klev.C19.readonly_rejects wRO wRO_ro [(60, [9], [9])] [4]
example := Klev.C19.readonly_same_content wL.disk wL_diskOK ooRO ooRec wRO wRW open_wRO open_wRW
example := Klev.C19.reads_keep_log_files wL wL_inv 2 3
example := Klev.C19.reads_keep_log_files wRO wRO_inv 7 3

-- evaluated
example : lockRun true ⟨0, 0⟩ [.openRO false, .openRW false, .openRO false, .closeRO, .closeRO, .openRW false,
    .openRO false, .openRW true] = ⟨1, 0⟩ := by decide +kernel
example : (wRO.publish [(60, [9], [9])]).2 = .err .readonly ∧ (wRO.delete [4]).2 = .err .readonly ∧
    (abs wRO).live = (abs wL).live ∧ (abs wRW).live = (abs wL).live ∧ (abs wRO).next = 9 ∧ (abs wRW).next = 9 := by
  decide +kernel
-- the read-only handle answers like the read-write one
example : (wRO.consume 3 2).2 = (wL.consume 3 2).2 ∧ (wRO.get 7).2 = (wL.get 7).2 ∧
    (wRO.getByKey [1]).2 = (wL.getByKey [1]).2 ∧ (wRO.getByTime 20).2 = (wL.getByTime 20).2 ∧
    (wRO.consume 9 1).2 = (wL.consume 9 1).2 ∧ (wRO.nextOffset).2 = .ok 9 := by decide +kernel
-- … and its reads leave every log file as it was (indexes are loaded in memory only where a file exists)
example : (wRO.getByTime 20).1.disk.map (fun d => (d.base, d.ver, d.recs)) =
    wL.disk.map (fun d => (d.base, d.ver, d.recs)) := by decide +kernel

end NonVacuity

#print axioms Klev.C19.source_facts
#print axioms Klev.C19.exclusion
#print axioms Klev.C19.open_fails_while_writer
#print axioms Klev.C19.readers_admit_readers
#print axioms Klev.C19.failed_open_releases
#print axioms Klev.C19.close_releases
#print axioms Klev.C19.readonly_rejects
#print axioms Klev.C19.readonly_same_content
#print axioms Klev.C19.reads_keep_log_files
