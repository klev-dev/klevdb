/-
C03 — Consume is a gap-free, duplicate-free cursor over the live messages.
Property theorems only (lemmas live in Klev/Proofs).
-/
import Klev.Proofs.IndexSearch
import Klev.Proofs.SearchTie
import Klev.Proofs.SegSearch
import Klev.Proofs.ConsumeOK
import Klev.Proofs.ReadInv
import Klev.Proofs.Witness
namespace Klev.C03

/-- **Refinement.** On every log state satisfying the invariant `Inv` (multi-segment, holes
at segment starts / middles / ends, empty head, indexes loaded or not), for every offset
and every `maxCount ≥ 1`, the mechanism `Log.consume` — segment selection by binary search,
in-segment lower bound through the index, range read through the record positions,
hand-off to the next segment after the end of a reader segment, caught-up handling in the
head — returns a result the L0 relation `ConsumeOK` allows: at most `maxCount` messages
forming a prefix of the live messages at or after the offset, next = last + 1; when
nothing is returned the next offset steps over no live message and equals `NextOffset`
when caught up; progress; `OffsetNewest` returns `(NextOffset, [])`; beyond `NextOffset`
fails with `ErrInvalidOffset`. -/
theorem consume_ok (l : Log) (hinv : Inv l) (off : Int) (mc : Nat) (hmc : 1 ≤ mc) :
    Spec.ConsumeOK (abs l) off mc (l.consume off mc).2 :=
  Klev.consume_ok l hinv off mc hmc

/-- Consume is a read: it keeps the invariant and the L0 state (it may load indexes). -/
theorem consume_inv (l : Log) (hinv : Inv l) (off : Int) (mc : Nat) :
    Inv (l.consume off mc).1 ∧ abs (l.consume off mc).1 = abs l :=
  Klev.consume_inv l hinv off mc

/-- (i) The in-segment search of `index.Consume`, for every sorted index and every offset:
the position of the first item whose offset is not below the requested one (and of the
last item), `afterEnd` beyond the last, `empty` on no items. -/
theorem index_consume_spec (items : List Item) (off : Int) (hs : SortedOff items) :
    Index.consume items off = Index.consumeSpec items off :=
  Index.consume_eq_spec items off hs

/-- (ii) Segment selection of `segment.Consume`: the last segment whose base is not above
the offset … -/
theorem segment_consume_spec (bases : List Int) (off : Int) (hs : SortedB bases)
    (hne : bases ≠ []) (h1 : off ≠ offsetOldest) (h2 : off ≠ offsetNewest)
    (hf : ∀ h : 0 < bases.length, bases[0] < off) :
    ∃ i : Nat, SegSearch.consume bases off = .ok (i : Int) ∧ IsSegFor bases off i :=
  SegSearch.consume_spec bases off hs hne h1 h2 hf

/-- … and the first segment for `OffsetOldest` or an offset not above the first base. -/
theorem segment_consume_first (bases : List Int) (off : Int) (hne : bases ≠ [])
    (h : off = offsetOldest ∨ (off ≠ offsetNewest ∧ ∀ h : 0 < bases.length, off ≤ bases[0])) :
    SegSearch.consume bases off = .ok 0 :=
  SegSearch.consume_first bases off hne h

-- non-vacuity: a concrete sorted index meets the hypotheses and the loop is exercised
example : SortedOff [⟨1, 8, 0, 0⟩, ⟨3, 50, 0, 0⟩, ⟨5, 90, 0, 0⟩, ⟨9, 130, 0, 0⟩] := by
  simp [SortedOff]
example : Index.consume [⟨1, 8, 0, 0⟩, ⟨3, 50, 0, 0⟩, ⟨5, 90, 0, 0⟩, ⟨9, 130, 0, 0⟩] 4 = .ok (90, 130) := by
  decide +kernel
example : SegSearch.consume [0, 10, 20, 30] 15 = .ok 1 := by decide +kernel

/-- **Regenerated tie (T4).** The search loops the theorems above are about *are* the loops of the
current source: `Klev/Gen/Search.lean` is translated statement by statement from
`pkg/index/offset.go` and `pkg/segment/index.go` on every run, and the translation equals the
model for every input. -/
theorem search_tie_consume (items : List Item) (bases : List Int) (off : Int) :
    Gen.Search.indexConsume items off = Index.consume items off ∧
    Gen.Search.segConsume bases off = SegSearch.consume bases off :=
  ⟨Klev.indexConsume_tie items off, Klev.segConsume_tie bases off⟩

end Klev.C03

/-! ### Non-vacuity: the theorems at the witness log `Witness.wL`, its derived index
`Witness.wIdx` (offsets 0 1 2 4 5 6 8) and its segment bases `[0, 2, 5, 8]` -/
section NonVacuity
open Klev Klev.Witness

example := Klev.C03.consume_ok wL wL_inv 3 2 (by decide +kernel)
example := Klev.C03.consume_ok wL wL_inv offsetOldest 1 (by decide +kernel)
example := Klev.C03.consume_ok wL wL_inv 9 5 (by decide +kernel)
example := Klev.C03.consume_inv wL wL_inv 7 4
example := Klev.C03.index_consume_spec wIdx 3 wIdx_sortedOff
example := Klev.C03.segment_consume_spec (bases wL) 4 wL_bases_sorted (by decide +kernel) (by decide +kernel) (by decide +kernel)
  (by decide +kernel)
example := Klev.C03.segment_consume_first (bases wL) offsetOldest (by decide +kernel) (Or.inl rfl)
example := Klev.C03.segment_consume_first (bases wL) 0 (by decide +kernel) (Or.inr (by decide +kernel))

-- evaluated: from the hole at 3 the cursor lands on 4; from the deleted tail 7 it hands off to
-- the next segment; at NextOffset it is caught up; beyond it fails
example : (wL.consume 3 2).2 = .ok (5, [⟨4, 30, [6], []⟩]) := by decide +kernel
example : (wL.consume 7 4).2 = .ok (9, [⟨8, 50, [2], [8]⟩]) := by decide +kernel
example : (wL.consume offsetOldest 1).2 = .ok (1, [⟨0, 10, [1], [1]⟩]) := by decide +kernel
example : (wL.consume 9 5).2 = .ok (9, []) ∧ (wL.consume offsetNewest 5).2 = .ok (9, []) ∧
    (wL.consume 10 5).2 = .err .invalidOffset := by decide +kernel
example : Index.consume wIdx 3 = .ok (122, 235) ∧ Index.consume wIdx 9 = .error .afterEnd := by decide +kernel
example : SegSearch.consume (bases wL) 4 = .ok 1 ∧ SegSearch.consume (bases wL) 7 = .ok 2 := by decide +kernel

end NonVacuity

#print axioms Klev.C03.consume_ok
#print axioms Klev.C03.consume_inv
#print axioms Klev.C03.index_consume_spec
#print axioms Klev.C03.segment_consume_spec
#print axioms Klev.C03.segment_consume_first
#print axioms Klev.C03.search_tie_consume
