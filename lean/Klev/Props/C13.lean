/-
C13 — Record and index formats are stable, self-consistent and exactly sized.
-/
import Klev.Documented
import Klev.Proofs.Codec
import Klev.Proofs.ScanProofs
import Klev.Proofs.StatOK
import Klev.Proofs.MemIdxInv
import Klev.Proofs.RecoverCheck
import Klev.Proofs.Witness
import Klev.Proofs.WitnessBytes
namespace Klev.C13

/-- The layout constants of the current source (regenerated on every run, evaluated by the
Go compiler) are the documented ones: magic `FF "klevs"` / `FF "klevi"`, 8-byte file
headers, 28-byte record headers, 8-byte trailer `DEADBEEFFEEDFACE`, CRC-32C (Castagnoli),
version markers 255/1, index flag bits times=1 keys=2, 64 MiB body bound, relative
offsets −2/−1/−3, item sizes 16/24/24/32. -/
theorem consts_documented : Documented.generated = Documented.documented := rfl

/-- Any message (arbitrary key/value bytes incl. empty, any int64 microsecond time, any
int64 offset, body ≤ 64 MiB) written in V1 or V2 reads back identical from the position
the writer reported, whatever precedes and follows it in the file; the reader's next
position is the position plus the record size. -/
theorem dec_enc (v : Ver) (pre post : List UInt8) (m : Msg) (h : m.Encodable) :
    dec v (pre ++ enc v m ++ post) pre.length = .ok m (pre.length + (enc v m).length) :=
  Klev.dec_enc v pre post m h

/-- `Size(m)` is exactly the number of bytes a message adds to a segment log. -/
theorem size_exact (v : Ver) (m : Msg) : ((enc v m).length : Int) = recSize v m :=
  Klev.enc_length v m

/-- Records are laid out back to back: scanning a file made of the header and encoded
records returns exactly those records, at exactly the positions of the model's layout
(header + prefix sums of sizes), and ends cleanly at the end of the file. -/
theorem back_to_back (v : Ver) (ms : List Msg) (h : ∀ m ∈ ms, m.Encodable) :
    (scan v (render v ms)).fin = .clean ∧ (scan v (render v ms)).recs.map (·.2) = ms ∧
    (scan v (render v ms)).recs.map (fun pm => ((pm.1 : Int), pm.2)) = layout v ms ∧
    (scan v (render v ms)).stop = (render v ms).length :=
  Klev.scan_render v ms h

/-- Index items of the four layouts read back what the layout stores. -/
theorem item_round_trip (p : Params) (it : Item)
    (ho1 : -(two63 : Int) ≤ it.off) (ho2 : it.off < (two63 : Int))
    (hp1 : -(two63 : Int) ≤ it.pos) (hp2 : it.pos < (two63 : Int))
    (hts : p.times = true → -(two63 : Int) ≤ it.ts ∧ it.ts < (two63 : Int)) :
    decItem p (encItem p it) =
      { it with ts := if p.times then it.ts else 0, kh := if p.keys then it.kh else 0 } :=
  Klev.decItem_encItem p it ho1 ho2 hp1 hp2 hts

theorem item_size (p : Params) (it : Item) : ((encItem p it).length : Int) = p.size :=
  Klev.encItem_length p it

-- non-vacuity
example : (⟨5, -3, [1, 2], []⟩ : Msg).Encodable := by
  simp [Msg.Encodable, two63, maxBody, Gen.msgMaxMessageBodySize]

/-! ### Clause "Stat reports exactly the number of live messages and the total size of all segment files"

`MemIdx l` ("a segment whose index is in memory has an index file") is the one extra clause
the `Stat` theorem needs beyond `Inv`; `segFileSize p s` is the number of bytes of the files
of one segment (log file + index file). Below: the statement on a state with `Inv` and
`MemIdx`, then `MemIdx` as an invariant of the API, then the statement on every state
reachable from a read-write open of an empty directory ("Stat over all C01 states"). -/

/-- `reader.Stat` on one segment: it reports one segment, exactly the number of records, and
exactly the size of the segment's two files — after rebuilding the index file if it was
missing; base, version, records and index consistency are kept, and a segment that already
has its index file is not changed at all. -/
theorem segStat_spec (o : Opts) (s : Seg) (hidx : IdxOK s)
    (hm : s.mem.isSome = true → s.idxf.isSome = true) :
    (∃ f, (segStat o s).1.idxf = some f) ∧
      (segStat o s).2 = some ⟨1, (s.recs.length : Int), segFileSize o.params (segStat o s).1⟩ ∧
      (segStat o s).1.base = s.base ∧ (segStat o s).1.ver = s.ver ∧
      (segStat o s).1.recs = s.recs ∧ IdxOK (segStat o s).1 ∧
      ((segStat o s).1.mem.isSome = true → (segStat o s).1.idxf.isSome = true) ∧
      (s.idxf.isSome = true → (segStat o s).1 = s) :=
  Klev.segStat_spec o s hidx hm

/-- **Stat, exactly.** On a log satisfying the invariant (and `MemIdx`): `Stat` succeeds;
`Messages` is exactly the number of live messages; `Segments` is exactly the number of
segments; `Size` is exactly the sum over all segments of the sizes of their files (log +
index, every index file present afterwards); and the call only loads / rebuilds indexes
(`Loaded`: invariant, content, options kept). -/
theorem stat_spec (l : Log) (h : Inv l) (hmi : MemIdx l) :
    ∃ st, (l.stat).2 = .ok st ∧ st.messages = ((abs l).live.length : Int) ∧
      st.segments = (l.segs.length : Int) ∧
      Loaded l (l.stat).1 ∧ MemIdx (l.stat).1 ∧ (∀ s ∈ (l.stat).1.segs, s.idxf.isSome = true) ∧
      st.size = ((l.stat).1.segs.map (segFileSize l.opts.params)).sum :=
  Klev.stat_spec l h hmi

/-- The L0 relation of the property (`Spec.StatOK`: message count exact, at least one
segment) follows. -/
theorem stat_ok (l : Log) (h : Inv l) (hmi : MemIdx l) : Spec.StatOK (abs l) (l.stat).2 :=
  Klev.stat_ok l h hmi

/-- On a read-write log satisfying `Inv` the head segment satisfies the `MemIdx` clause. -/
theorem memIdx_head (l : Log) (h : Inv l) (hro : l.opts.readonly = false) :
    ∀ hd, l.segs.getLast? = some hd → (hd.mem.isSome = true → hd.idxf.isSome = true) :=
  Klev.memIdx_head l h hro

/-- Every `Open` except the read-only open of an empty directory establishes `MemIdx`. -/
theorem open_memIdx (disk : List SegDisk) (oo : OpenOpts) (l : Log) (ho : Log.open disk oo = .ok l)
    (hne : disk ≠ [] ∨ oo.opts.readonly = false) : MemIdx l :=
  Klev.open_memIdx disk oo l ho hne

/-- Every API step (Publish, Delete, Consume, Get, GC, Close/reopen with any options, index
removal, migration, recover) keeps `MemIdx`. -/
theorem step_memIdx (l : Log) (hne : l.segs ≠ []) (hmi : MemIdx l) (op : Op) :
    MemIdx (stepOp l op) :=
  Klev.step_memIdx l hne hmi op

/-- `MemIdx` holds along every history. -/
theorem run_memIdx (l : Log) (hinv : Inv l) (hmi : MemIdx l) (ops : List Op) :
    MemIdx (runOps l ops) :=
  Klev.run_memIdx l hinv hmi ops

/-- From a read-write open of an empty directory, every reachable state satisfies `Inv` and
`MemIdx`. -/
theorem reach_memIdx (oo : OpenOpts) (hrw : oo.opts.readonly = false) (ops : List Op) :
    ∃ l0, Log.open [] oo = .ok l0 ∧ Inv (runOps l0 ops) ∧ MemIdx (runOps l0 ops) :=
  Klev.reach_memIdx oo hrw ops

/-- **Stat over all C01 states.** On every state reachable from a read-write open of an empty
directory by any history, with no hypothesis on the state: `Stat` succeeds and reports
exactly the number of live messages, exactly the number of segments and exactly the total
size of all segment files. -/
theorem stat_spec_reachable (oo : OpenOpts) (hrw : oo.opts.readonly = false) (ops : List Op) :
    ∃ l0, Log.open [] oo = .ok l0 ∧
      ∃ st, ((runOps l0 ops).stat).2 = .ok st ∧
        st.messages = ((abs (runOps l0 ops)).live.length : Int) ∧
        st.segments = ((runOps l0 ops).segs.length : Int) ∧
        Loaded (runOps l0 ops) ((runOps l0 ops).stat).1 ∧ MemIdx ((runOps l0 ops).stat).1 ∧
        (∀ s ∈ ((runOps l0 ops).stat).1.segs, s.idxf.isSome = true) ∧
        st.size = (((runOps l0 ops).stat).1.segs.map
          (segFileSize (runOps l0 ops).opts.params)).sum := by
  obtain ⟨l0, ho, hinv, hmi⟩ := Klev.reach_memIdx oo hrw ops
  exact ⟨l0, ho, Klev.stat_spec (runOps l0 ops) hinv hmi⟩

/-- The L0 relation on every such reachable state. -/
theorem stat_ok_reachable (oo : OpenOpts) (hrw : oo.opts.readonly = false) (ops : List Op) :
    ∃ l0, Log.open [] oo = .ok l0 ∧
      Spec.StatOK (abs (runOps l0 ops)) ((runOps l0 ops).stat).2 := by
  obtain ⟨l0, ho, hinv, hmi⟩ := Klev.reach_memIdx oo hrw ops
  exact ⟨l0, ho, Klev.stat_ok (runOps l0 ops) hinv hmi⟩

/-- The log-file term of `segFileSize` is a byte count: the model's `logSize` of a segment's
records is exactly the length of the file that holds them (header + records back to back),
in both versions. -/
theorem logSize_is_file_length (v : Ver) (ms : List Msg) :
    ((render v ms).length : Int) = logSize v ms :=
  Klev.render_length_logSize v ms

end Klev.C13

/-! ### Non-vacuity

Byte level: the messages `Witness.wMs` and `Witness.wM` (`Klev/Proofs/WitnessBytes.lean`). Record
level: the witness log `Witness.wL` (four segments, seven live messages, `Inv` and `MemIdx`
obtained from the reachability theorems; `Klev/Proofs/Witness.lean`), the same files with all
index files removed, and the same files opened read-only (`Witness.wRO`). -/
section NonVacuity
open Klev Klev.Witness

example := Klev.C13.dec_enc .v2 [7, 7] [5] wM wM_enc
example := Klev.C13.dec_enc .v1 (render .v1 wMs) [] wM wM_enc
example := Klev.C13.back_to_back .v2 wMs wMs_enc
example := Klev.C13.back_to_back .v1 wMs wMs_enc
example := Klev.C13.item_round_trip ⟨true, true⟩ ⟨4, 122, 30, 12638150916671911033⟩
  (by decide +kernel) (by decide +kernel) (by decide +kernel) (by decide +kernel) (fun _ => by decide +kernel)
example := Klev.C13.item_round_trip ⟨false, true⟩ ⟨4, 122, -30, 12638150916671911033⟩
  (by decide +kernel) (by decide +kernel) (by decide +kernel) (by decide +kernel) (fun h => nomatch h)

-- a segment of `wL` with its index file, and one whose index file was removed while closed
example := Klev.C13.segStat_spec wL.opts (wL.segs[1]'(by decide +kernel)) (wL_inv.idx _ (List.getElem_mem _))
  (wL_memIdx _ (List.getElem_mem _))
example := Klev.C13.segStat_spec oo.opts ((stepOp wL (.reopen [0, 2, 5, 8] none false oo)).segs[1]'(by decide +kernel))
  ((Klev.step_inv_abs wL wL_inv (.reopen [0, 2, 5, 8] none false oo)).1.idx _ (List.getElem_mem _))
  (Klev.step_memIdx wL wL_inv.segs_ne wL_memIdx (.reopen [0, 2, 5, 8] none false oo) _
    (List.getElem_mem _))
example := Klev.C13.stat_spec wL wL_inv wL_memIdx
example := Klev.C13.stat_spec wRO wRO_inv wRO_memIdx
example := Klev.C13.stat_ok wL wL_inv wL_memIdx
example := Klev.C13.memIdx_head wL wL_inv wL_rw
example : MemIdx l0 := Klev.C13.open_memIdx [] oo l0 open_l0 (Or.inr rfl)
example : MemIdx wRO := Klev.C13.open_memIdx wL.disk ooRO wRO open_wRO (Or.inl (by decide +kernel))
example := Klev.C13.step_memIdx wL wL_inv.segs_ne wL_memIdx (.delete [5, 6])
example : MemIdx wL := Klev.C13.run_memIdx l0 l0_inv (Klev.open_memIdx [] oo l0 open_l0 (Or.inr rfl)) ops
example := Klev.C13.run_memIdx wL wL_inv wL_memIdx [.reopen [0, 2, 5, 8] none false oo, .get 4, .gc]
example := Klev.C13.reach_memIdx oo rfl ops
example := Klev.C13.stat_spec_reachable oo rfl ops
example := Klev.C13.stat_ok_reachable oo rfl ops

-- evaluated: 4 segments, 7 messages; 553 bytes = log files 84 + 83 + 84 + 46, index files
-- (8 + 2·32)·3 + (8 + 32); the same after all index files were removed (Stat rebuilds them), and
-- through the read-only handle
example : (wL.stat).2 = .ok ⟨4, 7, 553⟩ ∧
    ((stepOp wL (.reopen [0, 2, 5, 8] none false oo)).stat).2 = .ok ⟨4, 7, 553⟩ ∧
    (wRO.stat).2 = .ok ⟨4, 7, 553⟩ := by decide +kernel
example : (wL.segs.map (fun s => (logSize s.ver s.recs, s.idxf.map (idxSize wL.opts.params)))) =
    [(84, some 72), (83, some 72), (84, some 72), (46, some 40)] := by decide +kernel
example : (segStat wL.opts (wL.segs[1]'(by decide))).2 = some ⟨1, 2, 155⟩ := by decide +kernel
example : dec .v2 ([7, 7] ++ enc .v2 wM ++ [5]) 2 = .ok wM 41 := by decide +kernel
example : decItem ⟨true, true⟩ (encItem ⟨true, true⟩ ⟨4, 122, 30, 12638150916671911033⟩) =
    ⟨4, 122, 30, 12638150916671911033⟩ := by decide +kernel

end NonVacuity

#print axioms Klev.C13.consts_documented
#print axioms Klev.C13.dec_enc
#print axioms Klev.C13.size_exact
#print axioms Klev.C13.back_to_back
#print axioms Klev.C13.item_round_trip
#print axioms Klev.C13.item_size
#print axioms Klev.C13.segStat_spec
#print axioms Klev.C13.stat_spec
#print axioms Klev.C13.stat_ok
#print axioms Klev.C13.memIdx_head
#print axioms Klev.C13.open_memIdx
#print axioms Klev.C13.step_memIdx
#print axioms Klev.C13.run_memIdx
#print axioms Klev.C13.reach_memIdx
#print axioms Klev.C13.stat_spec_reachable
#print axioms Klev.C13.stat_ok_reachable
#print axioms Klev.C13.logSize_is_file_length
