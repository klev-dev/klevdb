/-
C15 — Trim helpers remove exactly the oldest messages the bound requires.
The helpers are client loops over the API (`Consume(offset, 32)` from `OffsetOldest`, a
stop rule, then Delete / DeleteMulti); the theorems are about those loops run on the L1
model, and use only the read theorems (`consume_ok`) and the invariant.
-/
import Klev.Proofs.HelpersOK
import Klev.Proofs.FindByAgeMono
import Klev.Proofs.TrimFind
import Klev.Proofs.TrimsOK
import Klev.Proofs.Witness
namespace Klev.C15

/-- The cursor loop under every helper: iterating Consume from `OffsetOldest` with any
`maxCount ≥ 1` returns exactly the live messages, each once, and ends at `NextOffset`. -/
theorem scan_visits_all (l : Log) (h : Inv l) (mc : Nat) (hmc : 1 ≤ mc) (fuel : Nat)
    (hfuel : (abs l).live.length + 2 ≤ fuel) :
    ∃ l', scanAll mc fuel l offsetOldest [] = (l', .ok ((abs l).next, (abs l).live)) ∧ Inv l' ∧ abs l' = abs l :=
  Klev.scan_visits_all l h mc hmc fuel hfuel

/-- `FindByOffset` selects exactly the live offsets below the bound (`OffsetNewest` = all,
`OffsetOldest` = none): a prefix of the live sequence and nothing else; the loop
terminates; the log's content is untouched. -/
theorem findByOffset_ok (l : Log) (h : Inv l) (before : Int) (hb : -4 < before) :
    Spec.FindByOffsetOK (abs l) before (Helpers.findByOffset l before).2 ∧
    Inv (Helpers.findByOffset l before).1 ∧ abs (Helpers.findByOffset l before).1 = abs l :=
  Klev.findByOffset_ok l h before hb

/-- `FindByAge` selects a prefix of the live sequence containing no message newer than the
given time. -/
theorem findByAge_prefix (l : Log) (h : Inv l) (t : Int) :
    match (Helpers.findByAge l t).2 with
    | .ok offs => (∃ n, Spec.SameSet offs (Spec.offsOf ((abs l).live.take n))) ∧
        (∀ m ∈ (abs l).live, m.off ∈ offs → m.time ≤ t)
    | .err _ => True :=
  Klev.findByAge_prefix l h t

open Helpers

/-! ### Clause "FindBy… select a prefix of the live sequence and nothing else"

`MemIdx l` ("a segment whose index is in memory has an index file") is the extra clause the
`Stat` theorem needs; it holds in every state reachable from a read-write open (C13:
`reach_memIdx`). `FindByCount` and `FindBySize` call `Stat`. -/

/-- Closed form of `FindByOffset` for every `before ≥ -3` (`OffsetOldest`, `OffsetNewest`,
every real offset — below, inside and above the live range): exactly the offsets of the
live messages below the bound, and the call only loads indexes. -/
theorem findByOffset_eq (l : Log) (h : Inv l) (before : Int) (hb : -4 < before) :
    ∃ l', Loaded l l' ∧ findByOffset l before = (l', .ok
      (if before = offsetOldest then [] else
        Spec.offsOf ((abs l).live.filter (fun m => decide (m.off <
          (if before = offsetNewest then (abs l).next else before)))))) :=
  Klev.findByOffset_eq l h before hb

/-- Documented model artefact outside the quantifier (`before ≤ -4`, not an offset the API
defines): the model's loop is given no fuel and reports `.err .panic`, which
`FindByOffsetOK` rejects; the Go loop simply does not iterate and returns the empty set.
This is why `findByOffset_ok` carries `-4 < before`. -/
theorem findByOffset_panic (l : Log) (h : Inv l) (before : Int) (hb : before ≤ -4) :
    (findByOffset l before).2 = .err .panic ∧
      ¬ Spec.FindByOffsetOK (abs l) before (findByOffset l before).2 :=
  Klev.findByOffset_panic l h before hb

/-- **FindByCount** selects exactly the offsets of the first `n − max` live messages (none
when `n ≤ max`): a prefix and nothing else; it only loads indexes. Every `max` (negative,
below, at, above the count). -/
theorem findByCount_ok (l : Log) (h : Inv l) (hmi : MemIdx l) (max : Int) :
    Spec.FindByCountOK (abs l) max (findByCount l max).2 ∧ Loaded l (findByCount l max).1 :=
  Klev.findByCount_ok l h hmi max

/-- Closed form of `FindByCount`. -/
theorem findByCount_eq (l : Log) (h : Inv l) (hmi : MemIdx l) (max : Int) :
    ∃ l', Loaded l l' ∧ findByCount l max =
      (l', .ok (Spec.offsOf ((abs l).live.take (((abs l).live.length : Int) - max).toNat))) :=
  Klev.findByCount_eq l h hmi max

/-- **FindBySize**: with `st` the result of `Stat` (whose size is exactly the total size of
all segment files), it selects the offsets of the shortest prefix of the live messages
whose estimated removal (`Size(m)` = record size in `NewSegmentsVersion` + index item size)
brings the size below `sz`; everything if that is impossible, nothing if the size is
already below. Every `sz` from 0 to above the current size. -/
theorem findBySize_ok (l : Log) (h : Inv l) (hmi : MemIdx l) (sz : Int) :
    ∃ st, (l.stat).2 = .ok st ∧
      st.size = ((l.stat).1.segs.map (segFileSize l.opts.params)).sum ∧
      Spec.FindBySizeOK (abs l) (fun m => recSize l.opts.nsv m + l.opts.params.size) st.size sz
        (findBySize l sz).2 ∧
      Loaded l (findBySize l sz).1 :=
  Klev.findBySize_ok l h hmi sz

/-- Closed form of `FindBySize`. -/
theorem findBySize_eq (l : Log) (h : Inv l) (hmi : MemIdx l) (sz : Int) :
    ∃ st l', (l.stat).2 = .ok st ∧ Loaded l l' ∧ findBySize l sz =
      (l', .ok (Spec.offsOf (Spec.sizePrefix (sizeOf l) sz st.size (abs l).live))) :=
  Klev.findBySize_eq l h hmi sz

/-- The `FindBySize` selection is a prefix, … -/
theorem sizePrefix_prefix (est : Msg → Int) (sz : Int) :
    ∀ (ms : List Msg) (total : Int), Spec.sizePrefix est sz total ms <+: ms :=
  Klev.sizePrefix_prefix est sz

/-- … it brings the estimate below `sz` or is everything ("size below the target unless the
log is empty"), … -/
theorem sizePrefix_reaches (est : Msg → Int) (sz : Int) :
    ∀ (ms : List Msg) (total : Int),
      total - ((Spec.sizePrefix est sz total ms).map est).sum < sz ∨ Spec.sizePrefix est sz total ms = ms :=
  Klev.sizePrefix_reaches est sz

/-- … and no shorter prefix does ("without removing more than the size estimate requires"):
before each selected message the estimate was still `≥ sz`. -/
theorem sizePrefix_minimal (est : Msg → Int) (sz : Int) :
    ∀ (ms : List Msg) (total : Int) (k : Nat), k < (Spec.sizePrefix est sz total ms).length →
      sz ≤ total - ((ms.take k).map est).sum :=
  Klev.sizePrefix_minimal est sz

/-- What `FindByAge` returns when it returns: the offsets of `takeWhile (time ≤ before)` of a
prefix of the live messages; it only loads indexes. -/
theorem findByAge_res (l : Log) (h : Inv l) (before : Int) :
    Loaded l (findByAge l before).1 ∧
    ∀ offs, (findByAge l before).2 = .ok offs →
      ∃ P R, P ++ R = (abs l).live ∧
        offs = Spec.offsOf (P.takeWhile (fun m => decide (m.time ≤ before))) :=
  Klev.findByAge_res l h before

/-- `FindByAge`, when it succeeds, against the L0 relation without its monotone clause
(`mono := false`): a prefix of the live sequence, no message newer than `t` selected;
invariant and content untouched. -/
theorem findByAge_ok_of_ok (l : Log) (h : Inv l) (t : Int) (offs : List Int)
    (hr : (findByAge l t).2 = .ok offs) :
    Spec.FindByAgeOK false (abs l) t (.ok offs) ∧
    Inv (findByAge l t).1 ∧ abs (findByAge l t).1 = abs l :=
  Klev.findByAge_ok_of_ok l h t offs hr

/-- **Documented failing case.** `FindByAgeOK` rejects every error, but on an *empty*
read-write log with the time index on (a state satisfying the invariant), `GetByTime`
answers `ErrInvalidOffset` (as `GetByTimeOK` allows) and `FindByAge` passes the error on:
`FindByAge`/`TrimByAge` on an empty time-indexed log returns `ErrInvalidOffset` instead of
"nothing to trim". The relation fails there for both values of `mono`; this is why
`findByAge_prefix` / `findByAge_ok_of_ok` are conditional on a successful answer. -/
theorem findByAge_empty_times :
    Inv emptyTimesLog ∧ (abs emptyTimesLog).live = [] ∧
    (findByAge emptyTimesLog 5).2 = .err .invalidOffset ∧
    ∀ mono, ¬ Spec.FindByAgeOK mono (abs emptyTimesLog) 5 (findByAge emptyTimesLog 5).2 :=
  Klev.findByAge_empty_times

/-- Edge case behind `scan_visits_all`: the L0 relation `ConsumeOK` alone would allow a
cursor started at `OffsetOldest` to be sent to `OffsetNewest` with an empty chunk on a
non-empty log; the model never does (`consume_chunk`), which is what the cursor theorem
uses beyond `consume_ok`. -/
theorem consumeOK_allows_lost_cursor :
    ∃ s : Spec, Spec.WF s ∧ s.live ≠ [] ∧
      Spec.ConsumeOK s offsetOldest 1 (.ok (offsetNewest, [])) ∧
      Spec.ConsumeOK s offsetOldest 1 (.ok (0, [])) :=
  Klev.consumeOK_allows_lost_cursor

/-! ### Clause "after the Trim…Multi call no message outside the prefix is touched and the bound holds"

`thenDelete true (findX l b)` is `TrimByXMulti`; `thenDelete false …` is `TrimByX`. -/

/-- **TrimByOffsetMulti** on a read-write log, every `before ≥ -3`: no error; `OffsetOldest`
removes nothing; otherwise, with `b` = `NextOffset` for `OffsetNewest` and `before` itself
for a real offset, afterwards **no live offset is below `b`**, exactly the live messages
below `b` were removed and reported, everything else is untouched, `NextOffset` is kept. -/
theorem trimByOffsetMulti_bound (l : Log) (h : Inv l) (hro : l.opts.readonly = false) (before : Int)
    (hb : -4 < before) :
    let r := thenDelete true (findByOffset l before)
    let b := if before = offsetNewest then (abs l).next else before
    Inv r.1 ∧ r.2.err = none ∧ (abs r.1).next = (abs l).next ∧
    (before = offsetOldest → (abs r.1).live = (abs l).live ∧ r.2.msgs = []) ∧
    (before ≠ offsetOldest →
      (abs r.1).live = (abs l).live.filter (fun m => decide (b ≤ m.off)) ∧
      (∀ m ∈ (abs r.1).live, b ≤ m.off) ∧
      (∀ d, d ∈ r.2.msgs ↔ d ∈ (abs l).live ∧ d.off < b) ∧
      r.2.msgs = (abs l).live.filter (fun m => decide (m.off < b))) :=
  Klev.trimByOffsetMulti_bound l h hro before hb

/-- `TrimByOffsetMulti(OffsetNewest)` empties the log. -/
theorem trimByOffsetMulti_newest (l : Log) (h : Inv l) (hro : l.opts.readonly = false) :
    (abs (thenDelete true (findByOffset l offsetNewest)).1).live = [] :=
  Klev.trimByOffsetMulti_newest l h hro

/-- **TrimByCountMulti** on a read-write log, every `max`: no error; exactly the first
`n − max` live messages are removed and reported, the others are untouched; for `0 ≤ max`
**exactly `min(count, max)` messages are left**. -/
theorem trimByCountMulti_bound (l : Log) (h : Inv l) (hro : l.opts.readonly = false) (hmi : MemIdx l)
    (max : Int) :
    let r := thenDelete true (findByCount l max)
    let K := (((abs l).live.length : Int) - max).toNat
    Inv r.1 ∧ r.2.err = none ∧ (abs r.1).next = (abs l).next ∧
    (abs r.1).live = (abs l).live.drop K ∧
    r.2.msgs = (abs l).live.take K ∧
    (0 ≤ max → ((abs r.1).live.length : Int) = min ((abs l).live.length : Int) max) :=
  Klev.trimByCountMulti_bound l h hro hmi max

/-- **TrimBySizeMulti** on a read-write log, every `sz`: no error; with `S` the `Stat` size
and `P` the `FindBySize` selection, exactly `P` (a prefix) is removed and reported, the rest
is untouched; **the estimate `S − Σ Size(P)` is below `sz` unless the log is now empty, and
no shorter prefix achieves that** (not more removed than the size estimate requires). -/
theorem trimBySizeMulti_bound (l : Log) (h : Inv l) (hro : l.opts.readonly = false) (hmi : MemIdx l)
    (sz : Int) :
    ∃ st, (l.stat).2 = .ok st ∧
    let r := thenDelete true (findBySize l sz)
    let P := Spec.sizePrefix (sizeOf l) sz st.size (abs l).live
    Inv r.1 ∧ r.2.err = none ∧ (abs r.1).next = (abs l).next ∧
    (abs r.1).live = (abs l).live.drop P.length ∧ P = (abs l).live.take P.length ∧
    r.2.msgs = P ∧
    (st.size - (P.map (sizeOf l)).sum < sz ∨ (abs r.1).live = []) ∧
    (∀ k, k < P.length → sz ≤ st.size - (((abs l).live.take k).map (sizeOf l)).sum) :=
  Klev.trimBySizeMulti_bound l h hro hmi sz

/-! ### Both modes, any handle: only selected messages go, and exactly the reported ones -/

/-- After a `Find*` that only loaded indexes and returned the offsets of a list `Sel` of live
messages, `thenDelete` (single `Delete` or `DeleteMulti`, any handle, whether or not a pass
fails) removes exactly what it reports, and reports only messages of `Sel`. -/
theorem thenDelete_any (l l1 : Log) (h : Inv l) (hld : Loaded l l1) (multi : Bool) (Sel : List Msg)
    (hsel : ∀ x ∈ Sel, x ∈ (abs l).live) :
    let r := thenDelete multi (l1, .ok (Spec.offsOf Sel))
    Inv r.1 ∧ (abs r.1).live = Spec.removeAll (abs l).live r.2.msgs ∧ (abs r.1).next = (abs l).next ∧
    r.2.msgs.Nodup ∧ ∀ d ∈ r.2.msgs, d ∈ Sel :=
  Klev.thenDelete_sel l l1 hld multi _ Sel hsel (fun _ ho => ho)

/-- **TrimByOffset / TrimByOffsetMulti**, any handle: only live messages below the bound are
removed (none for `OffsetOldest`), and exactly the reported ones. -/
theorem trimByOffset_any (l : Log) (h : Inv l) (before : Int) (hb : -4 < before) (multi : Bool) :
    let r := thenDelete multi (findByOffset l before)
    let b := if before = offsetNewest then (abs l).next else before
    Inv r.1 ∧ (abs r.1).live = Spec.removeAll (abs l).live r.2.msgs ∧ (abs r.1).next = (abs l).next ∧
    r.2.msgs.Nodup ∧
    ∀ d ∈ r.2.msgs, d ∈ (abs l).live ∧ before ≠ offsetOldest ∧ d.off < b :=
  Klev.trimByOffset_any l h before hb multi

/-- **TrimByCount / TrimByCountMulti**, any handle: only messages among the first `n − max`
are removed, so at least `min n max` remain. -/
theorem trimByCount_any (l : Log) (h : Inv l) (hmi : MemIdx l) (max : Int) (multi : Bool) :
    let r := thenDelete multi (findByCount l max)
    let K := (((abs l).live.length : Int) - max).toNat
    Inv r.1 ∧ (abs r.1).live = Spec.removeAll (abs l).live r.2.msgs ∧ (abs r.1).next = (abs l).next ∧
    r.2.msgs.Nodup ∧ (∀ d ∈ r.2.msgs, d ∈ (abs l).live.take K) ∧
    (∀ m ∈ (abs l).live.drop K, m ∈ (abs r.1).live) :=
  Klev.trimByCount_any l h hmi max multi

/-- **TrimBySize / TrimBySizeMulti**, any handle: only messages of the `FindBySize`
selection are removed. -/
theorem trimBySize_any (l : Log) (h : Inv l) (hmi : MemIdx l) (sz : Int) (multi : Bool) :
    ∃ st, (l.stat).2 = .ok st ∧
    let r := thenDelete multi (findBySize l sz)
    Inv r.1 ∧ (abs r.1).live = Spec.removeAll (abs l).live r.2.msgs ∧ (abs r.1).next = (abs l).next ∧
    r.2.msgs.Nodup ∧ ∀ d ∈ r.2.msgs, d ∈ Spec.sizePrefix (sizeOf l) sz st.size (abs l).live :=
  Klev.trimBySize_any l h hmi sz multi

/-- **TrimByAge / TrimByAgeMulti**, any handle, whatever `FindByAge` answers (including the
error of `findByAge_empty_times`): **no message newer than the given time is removed**, only
live messages are, and exactly the reported ones; everything else is untouched. -/
theorem trimByAge_any (l : Log) (h : Inv l) (t : Int) (multi : Bool) :
    let r := thenDelete multi (findByAge l t)
    Inv r.1 ∧ (abs r.1).live = Spec.removeAll (abs l).live r.2.msgs ∧ (abs r.1).next = (abs l).next ∧
    r.2.msgs.Nodup ∧ ∀ d ∈ r.2.msgs, d ∈ (abs l).live ∧ d.time ≤ t :=
  Klev.trimByAge_any l h t multi

/-! ### The quantifier "for all reachable states" -/

/-- From a read-write open of an empty directory, after any history, `Stat` (on which
`FindByCount` / `FindBySize` rest) succeeds and counts exactly the live messages and the
segments. -/
theorem stat_reachable (oo : OpenOpts) (hrw : oo.opts.readonly = false) (ops : List Op) :
    ∃ l0, Log.open [] oo = .ok l0 ∧
      ∃ st, ((runOps l0 ops).stat).2 = .ok st ∧
        st.messages = ((abs (runOps l0 ops)).live.length : Int) ∧
        st.segments = ((runOps l0 ops).segs.length : Int) ∧
        Spec.StatOK (abs (runOps l0 ops)) ((runOps l0 ops).stat).2 :=
  Klev.stat_reachable oo hrw ops

/-- The three `Find*` selections that do not depend on times, on every state reachable from
a read-write open of an empty directory (multi-segment, with holes, after reopens …), with
no hypothesis on the state. -/
theorem finds_ok_reachable (oo : OpenOpts) (hrw : oo.opts.readonly = false) (ops : List Op) :
    ∃ l0, Log.open [] oo = .ok l0 ∧
      (∀ before, -4 < before →
        Spec.FindByOffsetOK (abs (runOps l0 ops)) before (findByOffset (runOps l0 ops) before).2) ∧
      (∀ max, Spec.FindByCountOK (abs (runOps l0 ops)) max (findByCount (runOps l0 ops) max).2) ∧
      (∀ sz, ∃ st, ((runOps l0 ops).stat).2 = .ok st ∧
        Spec.FindBySizeOK (abs (runOps l0 ops))
          (fun m => recSize (runOps l0 ops).opts.nsv m + (runOps l0 ops).opts.params.size)
          st.size sz (findBySize (runOps l0 ops) sz).2) := by
  obtain ⟨l0, ho, hinv, hmi⟩ := Klev.reach_memIdx oo hrw ops
  refine ⟨l0, ho, fun before hb => (Klev.findByOffset_ok _ hinv before hb).1,
    fun max => (Klev.findByCount_ok _ hinv hmi max).1, fun sz => ?_⟩
  obtain ⟨st, hst, _, hok, _⟩ := Klev.findBySize_ok _ hinv hmi sz
  exact ⟨st, hst, hok⟩

/-- **"when message times never decrease with offset, none older left"** — the clause of FindByAge /
TrimByAge that needs the time lookup to be right: with the invariants of the time index and
non-decreasing live times, FindByAge selects a prefix, nothing newer than `t`, and *every* message
older than `t`. -/
theorem findByAge_mono (l : Log) (hinv : Inv l) (ht : TimesInv l) (hm : Spec.Monotone (abs l))
    (hfab : FirstAtBase l) (t : Int) (offs : List Int)
    (hr : (findByAge l t).2 = .ok offs) :
    Spec.FindByAgeOK true (abs l) t (.ok offs) ∧
    Inv (findByAge l t).1 ∧ abs (findByAge l t).1 = abs l :=
  Klev.findByAge_mono l hinv ht hm hfab t offs hr

/-- … unconditionally after any history from an empty directory whose publish times never decrease
(with the time index configured). -/
theorem findByAge_mono_run (oo : OpenOpts) (xs : List OpX) (hsame : SameParamsX oo.opts.params xs)
    (hp : oo.opts.params.times = true) (hmono : PubMonoX 0 xs) (t : Int) :
    ∀ l0, Log.open [] oo = .ok l0 → ∀ offs, (findByAge (runX l0 xs) t).2 = .ok offs →
    Spec.FindByAgeOK true (abs (runX l0 xs)) t (.ok offs) ∧
    Inv (findByAge (runX l0 xs) t).1 ∧ abs (findByAge (runX l0 xs) t).1 = abs (runX l0 xs) :=
  Klev.findByAge_mono_run oo xs hsame hp hmono t

/-- FindByAge does return, except on the empty log with the time index on (the documented case). -/
theorem findByAge_mono_total (l : Log) (hinv : Inv l) (ht : TimesInv l)
    (hm : Spec.Monotone (abs l)) (hfab : FirstAtBase l) (t : Int)
    (hne : (abs l).live ≠ [] ∨ l.opts.params.times = false) :
    Spec.FindByAgeOK true (abs l) t (findByAge l t).2 ∧ Inv (findByAge l t).1 ∧ abs (findByAge l t).1 = abs l :=
  Klev.findByAge_mono_total l hinv ht hm hfab t hne

end Klev.C15

/-! ### Non-vacuity

The theorems at the witness log `Witness.wL` (segments `0: [0, 1]`, `2: [2, 4]`, `5: [5, 6]`,
`8: [8]`; times 10 20 | 20 30 | 30 40 | 50; read-write; `Inv`, `MemIdx`, `TimesInv`, `Monotone`,
`FirstAtBase` obtained from the reachability theorems), the same files through the read-only
handle `Witness.wRO`, and the extended history `Witness.xs` (`Klev/Proofs/Witness.lean`). -/
section NonVacuity
open Klev Klev.Witness Klev.Helpers

example := Klev.C15.scan_visits_all wL wL_inv 2 (by decide +kernel) 9 (by decide +kernel)
example := Klev.C15.findByOffset_ok wL wL_inv 5 (by decide +kernel)
example := Klev.C15.findByOffset_ok wL wL_inv offsetNewest (by decide +kernel)
example := Klev.C15.findByAge_prefix wL wL_inv 30
example := Klev.C15.findByOffset_eq wL wL_inv 5 (by decide +kernel)
example := Klev.C15.findByOffset_panic wL wL_inv (-4) (by decide +kernel)
example := Klev.C15.findByCount_ok wL wL_inv wL_memIdx 3
example := Klev.C15.findByCount_eq wL wL_inv wL_memIdx 3
example := Klev.C15.findBySize_ok wL wL_inv wL_memIdx 400
example := Klev.C15.findBySize_eq wL wL_inv wL_memIdx 400
example := Klev.C15.sizePrefix_minimal (sizeOf wL) 400 (abs wL).live 553 2 (by decide +kernel)
example := Klev.C15.findByAge_res wL wL_inv 30
example := Klev.C15.findByAge_ok_of_ok wL wL_inv 30 [0, 1, 2, 4] (by decide +kernel)
example := Klev.C15.trimByOffsetMulti_bound wL wL_inv wL_rw 5 (by decide +kernel)
example := Klev.C15.trimByOffsetMulti_newest wL wL_inv wL_rw
example := Klev.C15.trimByCountMulti_bound wL wL_inv wL_rw wL_memIdx 3
example := Klev.C15.trimBySizeMulti_bound wL wL_inv wL_rw wL_memIdx 400
example := Klev.C15.thenDelete_any wL (wL.get 0).1 wL_inv (Klev.get_loaded wL wL_inv 0) false
  [⟨4, 30, [6], []⟩, ⟨5, 30, [4], [5]⟩] (by decide +kernel)
example := Klev.C15.trimByOffset_any wL wL_inv 5 (by decide +kernel) false
example := Klev.C15.trimByOffset_any wRO wRO_inv 5 (by decide +kernel) true
example := Klev.C15.trimByCount_any wL wL_inv wL_memIdx 3 false
example := Klev.C15.trimByCount_any wRO wRO_inv wRO_memIdx 3 true
example := Klev.C15.trimBySize_any wL wL_inv wL_memIdx 400 false
example := Klev.C15.trimByAge_any wL wL_inv 30 true
example := Klev.C15.stat_reachable oo rfl ops
example := Klev.C15.finds_ok_reachable oo rfl ops
example := Klev.C15.findByAge_mono wL wL_inv wL_timesInv wL_mono wL_fab 30 [0, 1, 2, 4] (by decide +kernel)
example := Klev.C15.findByAge_mono_run oo xs xs_same rfl xs_mono 30 l0 open_l0 [0, 1, 2, 4] (by decide +kernel)
example := Klev.C15.findByAge_mono_total wL wL_inv wL_timesInv wL_mono wL_fab 30 (Or.inl (by decide +kernel))

-- evaluated: the selections …
example : (findByOffset wL 5).2 = .ok [0, 1, 2, 4] ∧ (findByOffset wL offsetNewest).2 = .ok [0, 1, 2, 4, 5, 6, 8] ∧
    (findByOffset wL offsetOldest).2 = .ok [] ∧ (findByOffset wL (-4)).2 = .err .panic := by decide +kernel
example : (findByCount wL 3).2 = .ok [0, 1, 2, 4] ∧ (findByCount wL 7).2 = .ok [] ∧
    (findByCount wL (-1)).2 = .ok [0, 1, 2, 4, 5, 6, 8] := by decide +kernel
-- Stat size 553; Size(m) = 70 (69 for the value-less one): 553 → 483 → 413 → 343 < 400
example : (findBySize wL 400).2 = .ok [0, 1, 2] ∧ (findBySize wL 554).2 = .ok [] ∧
    (findBySize wL 0).2 = .ok [0, 1, 2, 4, 5, 6, 8] := by decide +kernel
-- the bound of `FindByAge 30` is the first message at time 30 (offset 4); the scan ends with the
-- chunk that holds it, so offset 4 (time 30) is selected and offset 5 (also time 30, next segment)
-- is not: nothing newer than 30 is selected, everything older is
example : (findByAge wL 30).2 = .ok [0, 1, 2, 4] ∧ (findByAge wL 20).2 = .ok [0, 1] ∧
    (findByAge wL 31).2 = .ok [0, 1, 2, 4, 5] ∧ (findByAge wL 100).2 = .ok [0, 1, 2, 4, 5, 6, 8] ∧
    (findByAge wL 5).2 = .ok [] := by decide +kernel
-- … and the trims
example : (thenDelete true (findBySize wL 400)).2.err = none ∧
    (thenDelete true (findBySize wL 400)).2.msgs.map (·.off) = [0, 1, 2] ∧
    (abs (thenDelete true (findBySize wL 400)).1).live.map (·.off) = [4, 5, 6, 8] ∧
    ((thenDelete true (findBySize wL 400)).1.stat).2 = .ok ⟨3, 4, 327⟩ := by decide +kernel
-- single mode: one `Delete`, one segment
example : (thenDelete false (findByOffset wL 5)).2.msgs.map (·.off) = [0, 1] ∧
    (abs (thenDelete false (findByOffset wL 5)).1).live.map (·.off) = [2, 4, 5, 6, 8] := by decide +kernel
example : (thenDelete true (findByCount wL 3)).2.msgs.map (·.off) = [0, 1, 2, 4] ∧
    (abs (thenDelete true (findByCount wL 3)).1).live.map (·.off) = [5, 6, 8] := by decide +kernel
example : (thenDelete true (findByCount wRO 3)).2.err = some .readonly ∧
    (abs (thenDelete true (findByCount wRO 3)).1).live = (abs wL).live := by decide +kernel

end NonVacuity

#print axioms Klev.C15.scan_visits_all
#print axioms Klev.C15.findByOffset_ok
#print axioms Klev.C15.findByAge_prefix
#print axioms Klev.C15.findByOffset_eq
#print axioms Klev.C15.findByOffset_panic
#print axioms Klev.C15.findByCount_ok
#print axioms Klev.C15.findByCount_eq
#print axioms Klev.C15.findBySize_ok
#print axioms Klev.C15.findBySize_eq
#print axioms Klev.C15.sizePrefix_prefix
#print axioms Klev.C15.sizePrefix_reaches
#print axioms Klev.C15.sizePrefix_minimal
#print axioms Klev.C15.findByAge_res
#print axioms Klev.C15.findByAge_ok_of_ok
#print axioms Klev.C15.findByAge_empty_times
#print axioms Klev.C15.consumeOK_allows_lost_cursor
#print axioms Klev.C15.trimByOffsetMulti_bound
#print axioms Klev.C15.trimByOffsetMulti_newest
#print axioms Klev.C15.trimByCountMulti_bound
#print axioms Klev.C15.trimBySizeMulti_bound
#print axioms Klev.C15.thenDelete_any
#print axioms Klev.C15.trimByOffset_any
#print axioms Klev.C15.trimByCount_any
#print axioms Klev.C15.trimBySize_any
#print axioms Klev.C15.trimByAge_any
#print axioms Klev.C15.stat_reachable
#print axioms Klev.C15.finds_ok_reachable
#print axioms Klev.C15.findByAge_mono
#print axioms Klev.C15.findByAge_mono_run
#print axioms Klev.C15.findByAge_mono_total
