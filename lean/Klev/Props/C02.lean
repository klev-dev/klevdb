/-
C02 — Offsets are dense, increasing and never reused.
-/
import Klev.Proofs.Publish
import Klev.Proofs.Reach
import Klev.Proofs.Witness
namespace Klev.C02

/-- **Never reused.** Along any history — deleting the newest messages, emptying the whole
log, closing and reopening with any options included — the offsets assigned by Publish
are strictly increasing in order of assignment (so no offset is assigned twice in the life
of the directory) and never below the next offset of the starting state. -/
theorem never_reused (l : Log) (hinv : Inv l) (ops : List Op) :
    (assigned l ops).Pairwise (fun a b => a < b) ∧ ∀ x ∈ assigned l ops, (abs l).next ≤ x :=
  Klev.assigned_increasing l hinv ops

/-- `NextOffset` never moves backwards, whatever the step. -/
theorem next_monotone (l : Log) (hinv : Inv l) (op : Op) : (abs l).next ≤ (abs (stepOp l op)).next :=
  Klev.step_next_ge l hinv op

/-- On every log state satisfying the invariant, with rollover at any size, for every batch
(including the empty one): Publish returns `NextOffset + n`, the new live sequence is the
old one followed by the batch stamped with exactly the offsets `next, next+1, …` in order
(the model's batch carries no caller offset at all: it is ignored), and the invariant
is kept. On a read-only handle nothing changes and `ErrReadonly` is returned. -/
theorem publish_offsets (l : Log) (hinv : Inv l) (batch : List (Int × List UInt8 × List UInt8)) :
    Inv (l.publish batch).1 ∧
    Spec.PublishOK l.opts.readonly (abs l) batch (l.publish batch).2 (abs (l.publish batch).1) :=
  Klev.publish_step l hinv batch

/-- Every live message is below the next offset (so a newly assigned offset is fresh among the
live ones), offsets strictly increase. -/
theorem live_below_next (l : Log) (hinv : Inv l) : ∀ m ∈ (abs l).live, 0 ≤ m.off ∧ m.off < (abs l).next := by
  intro m hm
  exact ⟨hinv.shape.rec_nonneg hm, hinv.shape.lt_next hm⟩

end Klev.C02

/-! ### Non-vacuity: the theorems at the witness log `Witness.wL` (four segments, a hole, a
deleted tail; `Klev/Proofs/Witness.lean`) -/
section NonVacuity
open Klev Klev.Witness

-- the whole witness history from the empty log, and a continuation that deletes the newest
-- message and then everything before publishing again
example := Klev.C02.never_reused l0 l0_inv ops
example := Klev.C02.never_reused wL wL_inv
  [.delete [8], .publish [(60, [9], [9])], .delete [0, 1], .reopen [] none true oo, .publish [(61, [], [])]]
example := Klev.C02.next_monotone wL wL_inv (.delete [8])
example := Klev.C02.publish_offsets wL wL_inv [(60, [9], [9]), (61, [], [])]
example := Klev.C02.live_below_next wL wL_inv

-- evaluated: offsets 3 and 7 were assigned, deleted, and are never assigned again
example : assigned l0 ops = [0, 1, 2, 3, 4, 5, 6, 7, 8] := by decide +kernel
example : assigned wL [.delete [8], .publish [(60, [9], [9])], .delete [0, 1],
    .reopen [] none true oo, .publish [(61, [], [])]] = [9, 10] := by decide +kernel
example : (abs (stepOp wL (.delete [8]))).live.map (·.off) = [0, 1, 2, 4, 5, 6] ∧
    (abs (stepOp wL (.delete [8]))).next = 9 := by decide +kernel
example : (wL.publish [(60, [9], [9]), (61, [], [])]).2 = .ok 11 := by decide +kernel

end NonVacuity

#print axioms Klev.C02.never_reused
#print axioms Klev.C02.next_monotone
#print axioms Klev.C02.publish_offsets
#print axioms Klev.C02.live_below_next
