/-
C12 — Delete removes only what it reports, and reports it exactly.
-/
import Klev.Proofs.Delete
import Klev.Proofs.DeleteMultiOK
import Klev.Proofs.Reach
import Klev.Proofs.Witness
namespace Klev.C12

/-- **Delete step.** On every log state satisfying the invariant, for every offset set:
`Log.delete` (target = the segment holding the lowest requested offset; survivors copied
to a rewritten segment; swap-in for reader and head segments in all their outcomes —
segment dropped, rebased to its lowest survivor, same base; head emptied, tail deleted,
head reopened) keeps the invariant and satisfies `DeleteOK`: the reported messages are a
sublist of the live ones (full original content), all were requested, the new content is
the old one minus exactly them (every other message keeps offset and content),
`NextOffset` is unchanged, the size is the sum of their storage sizes in the version of
the file they were in; relative offsets → `ErrInvalidOffset` with nothing changed; the
empty set is a no-op; deleting below the first segment reports not-found with nothing
changed; a read-only handle returns `ErrReadonly`. -/
theorem delete_step (l : Log) (hinv : Inv l) (offs : List Int) :
    Inv (l.delete offs).1 ∧
    Spec.DeleteOK l.opts.readonly l.opts.params (abs l) offs (l.delete offs).2 (abs (l.delete offs).1) :=
  Klev.delete_step l hinv offs

/-- Deleting again deletes nothing: what `DeleteOK` reports is live, and after the delete
it no longer is (immediate from the relation: `del ⊆ live`, `live' = live − del`). -/
theorem delete_twice_nothing (p : Params) (s s' s'' : Spec) (offs : List Int)
    (del del2 : List Msg) (sz sz2 : Int)
    (h1 : Spec.DeleteOK false p s offs (.ok (del, sz)) s')
    (h2 : Spec.DeleteOK false p s' offs (.ok (del2, sz2)) s'') (hne : offs ≠ [])
    (hnn : ¬ ∃ o ∈ offs, o < 0) :
    ∀ d ∈ del2, d ∉ del := by
  unfold Spec.DeleteOK at h1 h2
  simp only [Bool.false_eq_true, if_false, hne, hnn] at h1 h2
  intro d hd hd1
  have hlive' : d ∈ s'.live := h2.1.subset hd
  rw [h1.2.2.1] at hlive'
  unfold Spec.removeAll at hlive'
  rw [List.mem_filter] at hlive'
  simp [hd1] at hlive'

open Helpers

/-- **The quantifier "for all reachable log states".** After any history (publishes, deletes,
reads, GC, reopens) from an empty directory opened with any options, for every offset set,
`Delete` on the reached state keeps the invariant and satisfies `DeleteOK`. No hypothesis on
the state. -/
theorem delete_step_reachable (oo : OpenOpts) (ops : List Op) (offs : List Int) :
    ∃ l0, Log.open [] oo = .ok l0 ∧
      Inv ((runOps l0 ops).delete offs).1 ∧
      Spec.DeleteOK (runOps l0 ops).opts.readonly (runOps l0 ops).opts.params
        (abs (runOps l0 ops)) offs ((runOps l0 ops).delete offs).2
        (abs ((runOps l0 ops).delete offs).1) := by
  obtain ⟨l0, ho, hinv, _⟩ := Klev.reach_from_empty oo ops
  exact ⟨l0, ho, Klev.delete_step (runOps l0 ops) hinv offs⟩

/-- `delete_step` read as a case distinction: an error changes nothing; a success reports
live requested messages (a sublist of the content: full original content, offset order),
removes exactly them, keeps `NextOffset`, and the reported size lies between the sums of
their storage sizes in the two file versions. -/
theorem delete_cases (l : Log) (hinv : Inv l) (offs : List Int) :
    Inv (l.delete offs).1 ∧
    ((∃ e, (l.delete offs).2 = .err e ∧ abs (l.delete offs).1 = abs l) ∨
     (∃ del sz, (l.delete offs).2 = .ok (del, sz) ∧ del.Sublist (abs l).live ∧
        (∀ d ∈ del, d.off ∈ offs) ∧
        (abs (l.delete offs).1).live = Spec.removeAll (abs l).live del ∧
        (abs (l.delete offs).1).next = (abs l).next ∧
        Spec.sumSizes .v1 l.opts.params del ≤ sz ∧ sz ≤ Spec.sumSizes .v2 l.opts.params del)) :=
  Klev.delete_cases l hinv offs

/-- `Delete` never changes the options of the handle. -/
theorem delete_opts (l : Log) (offs : List Int) : (l.delete offs).1.opts = l.opts :=
  Klev.delete_opts l offs

/-! ### One `Delete` pass makes progress (what `DeleteOK` alone does not say) -/

/-- **Which messages one `Delete` removes.** On a read-write log, when the lowest requested
offset is the offset of a live message `m0`, `Delete` succeeds and reports *exactly* the
requested records of the segment holding `m0` — all of them, in particular `m0`.
(`DeleteOK` alone would allow the empty report.) -/
theorem delete_target (l : Log) (hinv : Inv l) (hro : l.opts.readonly = false) (offs : List Int)
    (hne : offs ≠ []) (m0 : Msg) (hm0 : m0 ∈ (abs l).live) (hoff : m0.off = minOff offs) :
    ∃ (i : Nat) (hi : i < l.segs.length) (sz : Int), m0 ∈ (l.segs[i]).recs ∧
      (l.delete offs).2 = .ok ((l.segs[i]).recs.filter (fun m => offs.contains m.off), sz) :=
  Klev.delete_target l hinv hro offs hne m0 hm0 hoff

/-- The lowest requested live message is always among the deleted ones. -/
theorem delete_lowest (l : Log) (hinv : Inv l) (hro : l.opts.readonly = false) (offs : List Int)
    (hne : offs ≠ []) (m0 : Msg) (hm0 : m0 ∈ (abs l).live) (hoff : m0.off = minOff offs) :
    ∃ del sz, (l.delete offs).2 = .ok (del, sz) ∧ m0 ∈ del :=
  Klev.delete_lowest l hinv hro offs hne m0 hm0 hoff

/-- The report of one pass is downward closed among the requested live messages: with
`m0 ∈ del` it is a non-empty initial run of them (offset sets "spanning several segments"
are served one segment per pass, lowest first). -/
theorem delete_run (l : Log) (hinv : Inv l) (hro : l.opts.readonly = false) (offs : List Int)
    (hne : offs ≠ []) (m0 : Msg) (hm0 : m0 ∈ (abs l).live) (hoff : m0.off = minOff offs) :
    ∃ del sz, (l.delete offs).2 = .ok (del, sz) ∧ m0 ∈ del ∧
      ∀ d ∈ del, ∀ x ∈ (abs l).live, x.off ∈ offs → x.off ≤ d.off → x ∈ del :=
  Klev.delete_run l hinv hro offs hne m0 hm0 hoff

/-! ### Clause "DeleteMulti over a set of live offsets removes all of them" -/

/-- **DeleteMulti, safety and completion.** For every log satisfying the invariant and every
offset list (duplicates, dead and unassigned offsets allowed): the invariant is kept; the
reported messages are exactly the messages removed (new content = old content minus them,
`NextOffset` unchanged); each was live and requested; none is reported twice; the reported
size is bracketed by the sums of their storage sizes — whether or not a pass failed. On a
read-write log, when every requested offset is the offset of a live message, no pass fails
and afterwards none of them is live. -/
theorem deleteMulti_spec (l : Log) (h : Inv l) (offs : List Int) :
    let r := Helpers.deleteMulti l offs
    Inv r.1 ∧
    ((abs r.1).live = Spec.removeAll (abs l).live r.2.msgs ∧ (abs r.1).next = (abs l).next ∧
      (∀ d ∈ r.2.msgs, d ∈ (abs l).live ∧ d.off ∈ offs) ∧ r.2.msgs.Nodup ∧
      Spec.sumSizes .v1 l.opts.params r.2.msgs ≤ r.2.size ∧
      r.2.size ≤ Spec.sumSizes .v2 l.opts.params r.2.msgs) ∧
    (l.opts.readonly = false → (∀ o ∈ offs, ∃ m ∈ (abs l).live, m.off = o) →
      r.2.err = none ∧ ∀ m ∈ (abs r.1).live, m.off ∉ offs) :=
  Klev.deleteMulti_spec l h offs

/-- **Closed form of the completed case.** On a read-write log and a set of live offsets:
no error; the new content is the old one with exactly the messages at a requested offset
filtered out; the report is exactly those messages, in offset order. -/
theorem deleteMulti_complete (l : Log) (h : Inv l) (hro : l.opts.readonly = false) (offs : List Int)
    (hlive : ∀ o ∈ offs, ∃ m ∈ (abs l).live, m.off = o) :
    let r := Helpers.deleteMulti l offs
    Inv r.1 ∧ r.2.err = none ∧
    (abs r.1).live = (abs l).live.filter (fun m => !offs.contains m.off) ∧
    (abs r.1).next = (abs l).next ∧
    (∀ d, d ∈ r.2.msgs ↔ d ∈ (abs l).live ∧ d.off ∈ offs) ∧
    r.2.msgs = (abs l).live.filter (fun m => offs.contains m.off) :=
  Klev.deleteMulti_complete l h hro offs hlive

/-- `deleteMulti_spec` on every reachable state. -/
theorem deleteMulti_spec_reachable (oo : OpenOpts) (ops : List Op) (offs : List Int) :
    ∃ l0, Log.open [] oo = .ok l0 ∧
      let l := runOps l0 ops
      let r := Helpers.deleteMulti l offs
      Inv r.1 ∧
      ((abs r.1).live = Spec.removeAll (abs l).live r.2.msgs ∧ (abs r.1).next = (abs l).next ∧
        (∀ d ∈ r.2.msgs, d ∈ (abs l).live ∧ d.off ∈ offs) ∧ r.2.msgs.Nodup ∧
        Spec.sumSizes .v1 l.opts.params r.2.msgs ≤ r.2.size ∧
        r.2.size ≤ Spec.sumSizes .v2 l.opts.params r.2.msgs) ∧
      (l.opts.readonly = false → (∀ o ∈ offs, ∃ m ∈ (abs l).live, m.off = o) →
        r.2.err = none ∧ ∀ m ∈ (abs r.1).live, m.off ∉ offs) := by
  obtain ⟨l0, ho, hinv, _⟩ := Klev.reach_from_empty oo ops
  exact ⟨l0, ho, Klev.deleteMulti_spec (runOps l0 ops) hinv offs⟩

/-- A single `Delete`, in the shape shared with `DeleteMulti` (`Removed`): the resulting log
is the old one with exactly the reported messages removed; they were live, requested, and
distinct; invariant and options kept. Holds for the error outcomes too (nothing reported,
nothing removed). Used by every `Trim*` / `Compact*` helper. -/
theorem single_delete_removed (l : Log) (h : Inv l) (offs : List Int) :
    Removed l (single (l.delete offs)).1 offs (single (l.delete offs)).2.msgs :=
  Klev.single_delete_removed l h offs

/-- "Find, then Delete / DeleteMulti" (`thenDelete`, the body of every `Trim*` and `Compact*`
helper): what it removed is what it reports, in both modes, after a `Find*` that only
loaded indexes. -/
theorem thenDelete_removed (l l1 : Log) (hld : Loaded l l1) (multi : Bool) (offs : List Int) :
    Removed l (thenDelete multi (l1, .ok offs)).1 offs (thenDelete multi (l1, .ok offs)).2.msgs :=
  Klev.thenDelete_removed l l1 hld multi offs

end Klev.C12

/-! ### Non-vacuity: the theorems at the witness log `Witness.wL` (segments `0: [0, 1]`,
`2: [2, 4]`, `5: [5, 6]`, `8: [8]`, read-write; `Klev/Proofs/Witness.lean`) -/
section NonVacuity
open Klev Klev.Witness Klev.Helpers

example := Klev.C12.delete_step wL wL_inv [4, 5]
example := Klev.C12.delete_step wL wL_inv [3]
example := Klev.C12.delete_step wRO wRO_inv [4]
-- the same set `[4, 5]` twice on the model: the first pass removes 4 (segment 2 holds the lowest
-- requested offset); the second pass targets the same segment again and removes nothing (offset 5,
-- live and requested, stays: one `Delete` serves one segment) …
example :=
  have e1 : (wL.delete [4, 5]).2 = .ok ([⟨4, 30, [6], []⟩], 69) := by decide +kernel
  have e2 : ((wL.delete [4, 5]).1.delete [4, 5]).2 = .ok ([], 0) := by decide +kernel
  Klev.C12.delete_twice_nothing wL.opts.params (abs wL) (abs (wL.delete [4, 5]).1)
    (abs ((wL.delete [4, 5]).1.delete [4, 5]).1) [4, 5] [⟨4, 30, [6], []⟩] [] 69 0
    (by have h := (Klev.delete_step wL wL_inv [4, 5]).2; rw [wL_rw, e1] at h; exact h)
    (by have h := (Klev.delete_step _ (Klev.delete_step wL wL_inv [4, 5]).1 [4, 5]).2
        rw [Klev.delete_opts, wL_rw, e2] at h; exact h)
    (by decide +kernel) (by decide +kernel)
-- … and on the L0 relation alone, with a second report that is not empty
example := Klev.C12.delete_twice_nothing ⟨true, true⟩ ⟨[⟨4, 30, [6], []⟩, ⟨5, 30, [4], [5]⟩], 9⟩
  ⟨[⟨5, 30, [4], [5]⟩], 9⟩ ⟨[], 9⟩ [4, 5] [⟨4, 30, [6], []⟩] [⟨5, 30, [4], [5]⟩] 69 70
  (by decide +kernel) (by decide +kernel) (by decide +kernel) (by decide +kernel)
example := Klev.C12.delete_cases wL wL_inv [4, 5]
example := Klev.C12.delete_step_reachable oo ops [4, 5]
example := Klev.C12.deleteMulti_spec_reachable oo ops [8, 0, 4, 4]
example := Klev.C12.delete_target wL wL_inv wL_rw [8, 6, 5] (by decide +kernel) ⟨5, 30, [4], [5]⟩ (by decide +kernel) (by decide +kernel)
example := Klev.C12.delete_lowest wL wL_inv wL_rw [8, 6, 5] (by decide +kernel) ⟨5, 30, [4], [5]⟩ (by decide +kernel) (by decide +kernel)
example := Klev.C12.delete_run wL wL_inv wL_rw [8, 6, 5] (by decide +kernel) ⟨5, 30, [4], [5]⟩ (by decide +kernel) (by decide +kernel)
example := Klev.C12.deleteMulti_spec wL wL_inv [8, 0, 4, 4, 7, 100]
example := Klev.C12.deleteMulti_complete wL wL_inv wL_rw [8, 0, 4, 4] (by decide +kernel)
example := Klev.C12.single_delete_removed wL wL_inv [4, 5]
example := Klev.C12.thenDelete_removed wL (wL.get 0).1 (Klev.get_loaded wL wL_inv 0) true [8, 0, 4]
example := Klev.C12.thenDelete_removed wL wL (Loaded.refl wL_inv) false [8, 0, 4]

-- evaluated
example : (wL.delete [8, 6, 5]).2 = .ok ([⟨5, 30, [4], [5]⟩, ⟨6, 40, [1], [6]⟩], 140) ∧
    (abs (wL.delete [8, 6, 5]).1).live.map (·.off) = [0, 1, 2, 4, 8] ∧
    (abs (wL.delete [8, 6, 5]).1).next = 9 := by decide +kernel
example : (wL.delete [3]).2 = .ok ([], 0) ∧ (wL.delete [-1]).2 = .err .invalidOffset ∧
    (wL.delete []).2 = .ok ([], 0) ∧ (wRO.delete [4]).2 = .err .readonly := by decide +kernel
-- `DeleteMulti` over live offsets only: all of them go
example : (deleteMulti wL [8, 0, 4, 4]).2.err = none ∧
    (deleteMulti wL [8, 0, 4, 4]).2.msgs.map (·.off) = [0, 4, 8] ∧
    (deleteMulti wL [8, 0, 4, 4]).2.size = 70 + 69 + 70 ∧
    (abs (deleteMulti wL [8, 0, 4, 4]).1).live.map (·.off) = [1, 2, 5, 6] ∧
    (abs (deleteMulti wL [8, 0, 4, 4]).1).next = 9 := by decide +kernel
-- NOTE (what the completion clause does not cover): with a *dead* offset in the set (7, deleted
-- earlier) the loop stops at the pass whose lowest remaining offset is 7 — that pass deletes
-- nothing — and the live requested offset 8 is left in place, with no error. This is the loop of
-- delete.go (`case len(deleted) == 0: return … nil`); `deleteMulti_spec` promises completion only
-- when every requested offset is live.
example : (deleteMulti wL [8, 0, 4, 4, 7, 100]).2.err = none ∧
    (deleteMulti wL [8, 0, 4, 4, 7, 100]).2.msgs.map (·.off) = [0, 4] ∧
    (deleteMulti wL [8, 0, 4, 4, 7, 100]).2.size = 70 + 69 ∧
    (abs (deleteMulti wL [8, 0, 4, 4, 7, 100]).1).live.map (·.off) = [1, 2, 5, 6, 8] ∧
    (abs (deleteMulti wL [8, 0, 4, 4, 7, 100]).1).next = 9 := by decide +kernel

end NonVacuity

#print axioms Klev.C12.delete_step
#print axioms Klev.C12.delete_twice_nothing
#print axioms Klev.C12.delete_step_reachable
#print axioms Klev.C12.delete_cases
#print axioms Klev.C12.delete_opts
#print axioms Klev.C12.delete_target
#print axioms Klev.C12.delete_lowest
#print axioms Klev.C12.delete_run
#print axioms Klev.C12.deleteMulti_spec
#print axioms Klev.C12.deleteMulti_complete
#print axioms Klev.C12.deleteMulti_spec_reachable
#print axioms Klev.C12.single_delete_removed
#print axioms Klev.C12.thenDelete_removed
