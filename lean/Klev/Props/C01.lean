/-
C01 — Log content fidelity: nothing lost, nothing invented, nothing altered.

The L0 state `abs l` *is* the content of the log: the records of all segments in order.
Fidelity is the conjunction of (a) every operation changes `abs` exactly as the L0
relation says (publish appends the stamped batch; delete removes what it reports; reads,
GC, rollover change nothing), (b) the invariant is kept, (c) reading from the oldest
offset returns `abs l` (C03). The step theorems are collected here as they are proved.
-/
import Klev.Proofs.Publish
import Klev.Proofs.ReadInv
import Klev.Proofs.Reach
import Klev.Proofs.Witness
namespace Klev.C01

/-- **Fidelity.** From any state satisfying the invariant, after any finite sequence of
steps — Publish (any batch incl. empty, any key/value bytes, any times), Delete (any
offset set; the trims, compactions and DeleteMulti are client loops of Consume + Delete),
Consume / Get, GC, Close + reopen with index files removed, package-level Migrate /
Recover, and Open with any re-drawn options (Rollover, Check, Recover,
NewSegmentsVersion, KeepRewriteVersion, EagerVersionMigrate, read-only) — the invariant
holds and the content `abs` equals the L0 list semantics of the history: append what was
published stamped from `next`, remove exactly what Delete reported, nothing else. -/
theorem fidelity (l : Log) (hinv : Inv l) (ops : List Op) :
    Inv (runOps l ops) ∧ abs (runOps l ops) = specRun (abs l) l ops :=
  Klev.run_inv_abs l hinv ops

/-- … in particular for every history from an empty directory opened with any options. -/
theorem fidelity_from_empty (oo : OpenOpts) (ops : List Op) :
    ∃ l0, Log.open [] oo = .ok l0 ∧ Inv (runOps l0 ops) ∧
      abs (runOps l0 ops) = specRun ⟨[], 0⟩ l0 ops :=
  Klev.reach_from_empty oo ops

/-- One step: invariant kept, content changed exactly as the list semantics says. -/
theorem step (l : Log) (hinv : Inv l) (op : Op) :
    Inv (stepOp l op) ∧ abs (stepOp l op) = specStep (abs l) l op :=
  Klev.step_inv_abs l hinv op

/-- Publish (with rollover at any size, any batch incl. empty, any key/value bytes and
times) appends exactly the stamped batch and keeps the invariant. -/
theorem publish_step (l : Log) (hinv : Inv l) (batch : List (Int × List UInt8 × List UInt8)) :
    Inv (l.publish batch).1 ∧
    Spec.PublishOK l.opts.readonly (abs l) batch (l.publish batch).2 (abs (l.publish batch).1) :=
  Klev.publish_step l hinv batch

/-- Rollover alone changes no content. -/
theorem rollover_keeps_content (l : Log) (hinv : Inv l) (hro : l.opts.readonly = false) :
    Inv l.rollover ∧ abs l.rollover = abs l :=
  ⟨(Klev.rollover_spec l hinv hro).1, (Klev.rollover_spec l hinv hro).2.1⟩

/-- Reading changes no content (it may load or rebuild indexes). -/
theorem consume_keeps_content (l : Log) (hinv : Inv l) (off : Int) (mc : Nat) :
    Inv (l.consume off mc).1 ∧ abs (l.consume off mc).1 = abs l :=
  Klev.consume_inv l hinv off mc

/-- What a reader sees is the L0 content: the result of Consume is a prefix of the live
messages at or after the offset (C03's theorem, restated here because the observation of
C01 is a scan). -/
theorem consume_shows_content (l : Log) (hinv : Inv l) (off : Int) (mc : Nat) (hmc : 1 ≤ mc) :
    Spec.ConsumeOK (abs l) off mc (l.consume off mc).2 :=
  Klev.consume_ok l hinv off mc hmc

end Klev.C01

/-! ### Non-vacuity

The hypotheses of the theorems above are jointly satisfiable: each theorem is instantiated at
the witness log `Witness.wL` (`Klev/Proofs/Witness.lean`: four segments, a hole, a deleted
tail, key and time index on, reached from an empty directory by running the API), and the
concrete conclusions are evaluated. -/
section NonVacuity
open Klev Klev.Witness

-- `fidelity` at the empty log is the statement about the witness itself …
example : Inv wL ∧ abs wL = specRun (abs l0) l0 ops := Klev.C01.fidelity l0 l0_inv ops
example := Klev.C01.fidelity_from_empty oo ops
-- … and the witness is again a legitimate starting state
example := Klev.C01.fidelity wL wL_inv [.publish [(60, [9], [9])], .delete [0, 8], .gc, .get 4]
example := Klev.C01.step wL wL_inv (.delete [4])
example := Klev.C01.publish_step wL wL_inv [(60, [9], [9]), (61, [], [])]
example := Klev.C01.rollover_keeps_content wL wL_inv wL_rw
example := Klev.C01.consume_keeps_content wL wL_inv 2 3
example := Klev.C01.consume_shows_content wL wL_inv 2 3 (by decide +kernel)

-- evaluated: the content of the witness, a Consume across the hole, a further history
example : (abs wL).live.map (fun m => (m.off, m.time, m.key, m.val)) =
    [(0, 10, [1], [1]), (1, 20, [2], [2]), (2, 20, [1], [3]), (4, 30, [6], []),
     (5, 30, [4], [5]), (6, 40, [1], [6]), (8, 50, [2], [8])] ∧ (abs wL).next = 9 := by decide +kernel
example : (wL.consume 2 3).2 = .ok (5, [⟨2, 20, [1], [3]⟩, ⟨4, 30, [6], []⟩]) := by decide +kernel
example : (wL.consume 3 1).2 = .ok (5, [⟨4, 30, [6], []⟩]) := by decide +kernel
example : (abs (runOps wL [.publish [(60, [9], [9])], .delete [0, 8], .gc, .get 4])).live.map (·.off) =
    [1, 2, 4, 5, 6, 8, 9] := by decide +kernel
example : (abs wL.rollover).live = (abs wL).live ∧ wL.rollover.segs.length = wL.segs.length := by decide +kernel

end NonVacuity

#print axioms Klev.C01.fidelity
#print axioms Klev.C01.fidelity_from_empty
#print axioms Klev.C01.step
#print axioms Klev.C01.publish_step
#print axioms Klev.C01.rollover_keeps_content
#print axioms Klev.C01.consume_keeps_content
#print axioms Klev.C01.consume_shows_content
