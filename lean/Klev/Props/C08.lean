/-
C08 — Concurrent use is race-free and linearizable.

Proved here: (1) the locking discipline of the current source, as regenerated structural
facts; (2) that this discipline — reads atomic under the segment-list read lock, Publish
committing by the head index append under `writerMu`, Delete committing by the swap under
`deleteMu` and the write locks — makes *every* schedule of any number of calls
linearizable: the commit log, read as a sequential run of the specification, returns
exactly what every call returned and ends in exactly the visible state, each call commits
once between its invocation and its response, publishers receive disjoint consecutive
ranges, and a visible message disappears only by a Delete that reports it
(`Klev/Conc.lean`, no bound on threads or steps).

The statement about the real code over real schedules (goroutines, the kernel's page-wise
visibility of writes, the race detector) is decided by the schedule correspondence
(`sched` and `free` profiles). See DESIGN.md §0.5.
-/
import Klev.Gen.Facts
import Klev.Proofs.ConcProofs
import Klev.Proofs.ConcRefines
import Klev.Proofs.HeadReadProofs
import Klev.Proofs.HeadReadModel
namespace Klev.C08
open Klev.Conc

/-- The locking discipline of the current source (go/ast, regenerated on every run, following
the statement structure): every read call runs as a whole under the segment-list read lock and
touches the list only there; every access to the writer in Publish/Delete happens with the
writer lock held (also in NextOffset and Sync, where the fsync and the reported offset share one
critical section); the rollover swaps the segment list under the write lock; ConsumeByKey reads the
head's next offset once and before its keys (the head's index grows under the writer lock, not the
read lock: the order is what makes the two reads one linearizable answer). -/
theorem source_facts :
    Gen.readRegionLocked = true ∧ Gen.writerGuarded = true ∧ Gen.syncUnderWriterLock = true ∧
    Gen.rolloverSwapUnderLock = true ∧ Gen.consumeByKeyNextFirst = true ∧
    Gen.getByTimeRemembersEmptyHead = true := by
  decide

/-- **Linearizability of the lock discipline, for every schedule**: the commit log is a legal
sequential run of the specification (every committed result is the specification's result, every
Delete's choice is requested and live) and it produces exactly the visible state. -/
theorem linearizable (v0 : Vis) (ths : List Th) (h : Fresh ths) (sched : List Nat) :
    LogOK v0 (run (init v0 ths) sched).log ∧
      replay v0 (run (init v0 ths) sched).log = (run (init v0 ths) sched).vis :=
  Klev.Conc.linearizable v0 ths h sched

/-- What a finished call returned is what it committed, exactly once. -/
theorem done_result_in_log (v0 : Vis) (ths : List Th) (h : Fresh ths) (sched : List Nat)
    (i : Nat) (t : Th) (r : Conc.Res)
    (hi : (run (init v0 ths) sched).ths[i]? = some t) (hd : t.phase = .done r) :
    ∃ ch, (i, t.call, ch, r) ∈ (run (init v0 ths) sched).log ∧
      ((run (init v0 ths) sched).log.filter (fun e => e.1 == i)).length = 1 :=
  Klev.Conc.done_result_in_log v0 ths h sched i t r hi hd

/-- "consistent with real time": a call that had returned when another had not started is
committed before it (and only once). -/
theorem realtime_order (v0 : Vis) (ths : List Th) (h : Fresh ths) (s1 s2 : List Nat) (i j : Nat)
    (ti tj : Th) (r : Conc.Res)
    (hi : (run (init v0 ths) s1).ths[i]? = some ti) (hdi : ti.phase = .done r)
    (hj : (run (init v0 ths) s1).ths[j]? = some tj) (hsj : tj.phase = .start) :
    ∃ pre post ei, (run (init v0 ths) (s1 ++ s2)).log = pre ++ ei :: post ∧ ei.1 = i ∧
      (∀ e ∈ pre, e.1 ≠ j) ∧ (∀ e ∈ pre, e.1 ≠ i) :=
  Klev.Conc.realtime_order v0 ths h s1 s2 i j ti tj r hi hdi hj hsj

/-- "publishers receive disjoint consecutive offset ranges": a publish entry returns the next
offset of the log before it plus its batch length, and its messages are stamped from there. -/
theorem publish_entry_range (v : Vis) (pre post : List (Nat × Call × List Msg × Conc.Res)) (i : Nat) (b : Batch)
    (ch : List Msg) (r : Conc.Res)
    (h : LogOK v (pre ++ (i, Call.publish b, ch, r) :: post)) :
    r = .next ((replay v pre).next + b.length) :=
  Klev.Conc.publish_entry_range v pre post i b ch r h

/-- "a message once visible never changes or disappears unless a Delete reports it". -/
theorem no_unreported_loss (v : Vis) (log : List (Nat × Call × List Msg × Conc.Res)) (h : LogOK v log) (m : Msg)
    (hm : m ∈ v.live) (hgone : m ∉ (replay v log).live) :
    ∃ e ∈ log, ∃ offs, e.2.1 = Call.delete offs ∧ m ∈ e.2.2.1 ∧ e.2.2.2 = .deleted e.2.2.1 :=
  Klev.Conc.no_unreported_loss v log h m hm hgone

/-- Two publishers never hold the writer lock at once (and two deleters never the delete lock). -/
theorem writer_exclusive (v0 : Vis) (ths : List Th) (h : Fresh ths) (sched : List Nat) (i j : Nat) (ti tj : Th)
    (hi : (run (init v0 ths) sched).ths[i]? = some ti) (hj : (run (init v0 ths) sched).ths[j]? = some tj)
    (hwi : holdsW ti.phase = true) (hwj : holdsW tj.phase = true) : i = j :=
  Klev.Conc.writer_exclusive v0 ths h sched i j ti tj hi hj hwi hwj

/-- The sequential specification the lock discipline is linearizable against *is* the content semantics
of the modelled operations: `Log.publish` on a read-write log is one `seqStep` on `abs l` … -/
theorem publish_refines (l : Log) (hinv : Klev.Inv l) (hrw : l.opts.readonly = false) (b : Conc.Batch) :
    (l.publish b).2 = .ok ((abs l).next + b.length) ∧
    Conc.seqStep (Conc.toVis (abs l)) (.publish b) [] =
      (Conc.toVis (abs (l.publish b).1), .next ((abs l).next + b.length)) :=
  Klev.Conc.publish_refines l hinv hrw b

/-- … and `Log.delete` reporting `del` is one `seqStep` with the legal choice `del`. -/
theorem delete_refines (l : Log) (hinv : Klev.Inv l) (hrw : l.opts.readonly = false) (offs : List Int)
    (del : List Msg) (size : Int) (h : (l.delete offs).2 = .ok (del, size)) :
    Conc.LegalChoice (Conc.toVis (abs l)) (.delete offs) del ∧
    Conc.seqStep (Conc.toVis (abs l)) (.delete offs) del =
      (Conc.toVis (abs (l.delete offs).1), .deleted del) :=
  Klev.Conc.delete_refines l hinv hrw offs del size h

/-! ### reads of the head while publishes land

The read lock keeps rollovers and deletes out of a read call, not the appends to the head
(they happen under the writer lock). A read that looks at the head's index once is atomic at
that look (`Consume`: one snapshot; `Get`, `GetByKey`, `GetByTime`: one look, then records at
positions of an append-only file). `ConsumeByKey` looks twice; the order of the two looks in
the source is the regenerated fact `consumeByKeyNextFirst` in `source_facts`. -/

/-- How often, and in which order, each read of a segment looks at its index, regenerated from the
source (go/ast): `Consume` looks once (`GetNextOffset` for OffsetNewest, else the one snapshot
`index.Consume`); `Get` and `GetByKey` look once and then read records at positions, which never change
in an append-only file; `GetByTime` looks once (`Time`) and may then ask for the first item of an index
it has just found non-empty, which never changes either; `ConsumeByKey` is the read with two looks at a
growing index, next offset first: the theorems below. One look is atomic — this is what the lock-discipline
model's "reads are atomic" rests on for the head, whose index grows under the writer lock. -/
theorem reads_look_once :
    Gen.readerIndexLooks =
      "Consume:GetNextOffset,Consume;Get:Get;GetByKey:Keys;GetByTime:Time,Get;ConsumeByKey:GetNextOffset,Keys" :=
  rfl

open Klev.HeadRead in
/-- **`ConsumeByKey` with the next offset read first is linearizable**: whatever publishes land
between its two looks, it returns what a sequential `ConsumeByKey` returns in the state of the
first look or in the state of the second. -/
theorem consumeByKey_two_looks (a b : Head) (g : Grows a b) (key : List UInt8) (off : Int) (max : Nat) :
    nextFirst a b key off max = spec a key off max ∨ nextFirst a b key off max = spec b key off max := by
  obtain ⟨app, hb, _⟩ := g.ext
  unfold nextFirst spec
  by_cases he : pick b.recs key off max = []
  · -- nothing picked from `b`, so nothing from its prefix `a`: both answers are `(a.next, [])`
    have ha : pick a.recs key off max = [] := by
      rw [hb, pick, List.filter_append, List.take_append] at he
      exact (List.append_eq_nil_iff.mp he).1
    exact .inl (by rw [he, ha])
  · exact .inr (answer_ne _ _ _ he)

open Klev.HeadRead in
/-- … and a reader never sees a gap: every message with the key that is in the head at the second
look or at any later time, at or after the requested offset and below the returned next offset,
is among the returned ones — iterating by key visits every message with the key. -/
theorem consumeByKey_no_skip (a b c : Head) (g : Grows a b) (g2 : Grows b c) (hb : b.OK)
    (hs : c.recs.Pairwise (fun x y => x.off < y.off))
    (key : List UInt8) (off : Int) (max : Nat) (hmax : 0 < max) :
    ∀ m ∈ c.recs, m.key = key → off ≤ m.off → m.off < (nextFirst a b key off max).1 →
      m ∈ (nextFirst a b key off max).2 := by
  intro m hm hk ho hlt
  obtain ⟨app2, hcr, happ2⟩ := g2.ext
  rw [hcr] at hm hs
  -- the next offset answered is at most `b.next`, so `m` is in `b` already
  have hle : (nextFirst a b key off max).1 ≤ b.next :=
    answer_fst_le g.next fun l hl => hb l (List.mem_filter.mp (List.mem_of_mem_take hl)).1
  have hmb : m ∈ b.recs := (List.mem_append.mp hm).resolve_right fun h => by have := happ2 m h; omega
  rw [nextFirst, answer_snd]
  exact mem_take_of_lt_answer ((List.pairwise_append.mp hs).1.sublist List.filter_sublist) hmax
    (List.mem_filter.mpr ⟨hmb, by simp [hk, ho]⟩) hlt

open Klev.HeadRead in
/-- The sequential answer on the head is one the L0 relation of C09 accepts. -/
theorem consumeByKey_spec_l0 (h : Head) (key : List UInt8) (off : Int) (max : Nat) (hmax : 0 < max)
    (hoff : off ≠ Klev.offsetNewest) (hle : off ≤ h.next) :
    Klev.Spec.ConsumeByKeyOK true (Klev.Spec.mk h.recs h.next) key off max (.ok (spec h key off max)) :=
  Klev.HeadRead.spec_l0 h key off max hmax hoff

open Klev.HeadRead in
/-- **GetByTime past every message, the head empty when looked at (defect D21, repaired)**: the walk
that remembers the empty head (`getByTimeRemembersEmptyHead` in `source_facts`) answers what a
sequential lookup answers at that look; the walk that looks at the head again returns, in the
counterexample, a message *earlier* than the time asked for, published meanwhile — the sequential
answer in no state. (Replayed on the real code by the sched profile: `seeded/revert-D21`.) -/
theorem getByTime_empty_head :
    (∀ seg ts, gbtRemember seg ts = firstAt (seg ++ []) ts) ∧
    gbtRelook [⟨0, 5, [], [1]⟩] [⟨1, 7, [], [2]⟩] 10 = some ⟨1, 7, [], [2]⟩ ∧
    firstAt ([⟨0, 5, [], [1]⟩] ++ []) 10 = none ∧
    firstAt ([⟨0, 5, [], [1]⟩] ++ [⟨1, 7, [], [2]⟩]) 10 = none :=
  ⟨fun seg ts => by rw [List.append_nil, gbtRemember], by decide +kernel⟩

open Klev.HeadRead in
/-- The two-look read *is* the modelled `reader.ConsumeByKey` (the function the C09 theorems and the
correspondence are about) when its context carries the next offset of an earlier state of the head
than the records and index it reads: the theorems above are theorems about the modelled function. -/
theorem consumeByKey_model_is_two_looks (c : RCtx) (s : Seg) (its : List Item) (key : List UInt8)
    (off mc : Int) (hit : ItemsFor s.ver s.recs its) (hk : KeysFor s.recs its)
    (hn : off ≠ Klev.offsetNewest) (bnext : Int) :
    readerConsumeByKey c s its key off mc =
      .ok (nextFirst ⟨[], c.nextOff⟩ ⟨s.recs, bnext⟩ key off (keyLim mc 0)) :=
  Klev.HeadRead.readerConsumeByKey_two_looks c s its key off mc hit hk hn bnext

open Klev.HeadRead in
/-- **The other order (defect D22, repaired) is neither**: keys first on an empty head, one
publish with the key, then the next offset: `(1, [])` is the sequential answer in neither state
and steps over the message at offset 0. (Replayed on the real code by the sched profile: the
reverse patch `seeded/revert-D22`.) -/
theorem consumeByKey_other_order_counterexample :
    Grows dA dB ∧ dA.OK ∧ dB.OK ∧
    keysFirst dA dB [1] 0 3 = (1, []) ∧
    keysFirst dA dB [1] 0 3 ≠ spec dA [1] 0 3 ∧ keysFirst dA dB [1] 0 3 ≠ spec dB [1] 0 3 ∧
    (∃ m ∈ dB.recs, m.key = [1] ∧ 0 ≤ m.off ∧ m.off < (keysFirst dA dB [1] 0 3).1 ∧
      m ∉ (keysFirst dA dB [1] 0 3).2) := by
  have hA : dA.OK := by intro m hm; cases hm
  have hB : dB.OK := by intro m hm; simp [dB] at hm; subst hm; decide +kernel
  refine ⟨d_grows, hA, hB, by decide +kernel, by decide +kernel, by decide +kernel, ?_⟩
  exact ⟨⟨0, 5, [1], [2]⟩, by simp [dB], by decide +kernel, by decide +kernel, by decide +kernel, by decide +kernel⟩

end Klev.C08

/-! ### Non-vacuity

The theorems at the concrete threads and schedule of `Klev.Conc.Ex` (`Klev/Proofs/ConcProofs.lean`):
visible state `[m0, m1]`, thread 0 publishes two messages, thread 1 deletes offset 0, thread 2
reads; the schedule interleaves them (the Delete's swap waits for the writer lock). -/
section NonVacuity
open Klev.Conc Klev.Conc.Ex

-- two looks with a publish of the key in between: the source order returns the new message
example : Klev.HeadRead.nextFirst Klev.HeadRead.dA Klev.HeadRead.dB [1] 0 3 = (1, [⟨0, 5, [1], [2]⟩]) := by decide +kernel
example := Klev.C08.consumeByKey_two_looks _ _ Klev.HeadRead.d_grows [1] 0 3
example := Klev.C08.consumeByKey_no_skip _ _ _ Klev.HeadRead.d_grows
  (⟨⟨[], by simp, by intro m hm; cases hm⟩, Int.le_refl _⟩ : Klev.HeadRead.Grows Klev.HeadRead.dB Klev.HeadRead.dB)
  (by intro m hm; simp [Klev.HeadRead.dB] at hm; subst hm; decide +kernel) (by simp [Klev.HeadRead.dB]) [1] 0 3 (by decide +kernel)
example := Klev.C08.consumeByKey_spec_l0 Klev.HeadRead.dB [1] 0 3 (by decide +kernel) (by decide +kernel) (by decide +kernel)
-- the modelled reader function on a head of three records (index derived with keys), context next offset 2 of an
-- earlier state: it is the two-look read
example := Klev.C08.consumeByKey_model_is_two_looks ⟨true, 2⟩
  ⟨0, .v2, [⟨0, 5, [1], [2]⟩, ⟨1, 6, [3], []⟩, ⟨2, 7, [1], [4]⟩], none, none⟩
  (Klev.derive ⟨true, true⟩ .v2 [⟨0, 5, [1], [2]⟩, ⟨1, 6, [3], []⟩, ⟨2, 7, [1], [4]⟩]) [1] 0 3
  (Klev.derive_itemsFor _ _ _) (Klev.derive_keysFor _ _ _ rfl) (by decide +kernel) 3

example : Fresh ths := by unfold Fresh; decide +kernel
example := Klev.C08.linearizable v0 ths (by unfold Fresh; decide +kernel) sched
example := Klev.C08.done_result_in_log v0 ths (by unfold Fresh; decide +kernel) sched 0
  { call := .publish [(20, [3], [4]), (21, [], [5])], phase := .done (.next 4) } (.next 4) (by decide +kernel) rfl
-- the read (thread 2) has returned after `[2]`, the Publish (thread 0) has not started
example := Klev.C08.realtime_order v0 ths (by unfold Fresh; decide +kernel) [2] [0, 1, 0, 1, 1, 0, 1, 0, 1, 1] 2 0
  { call := .read 7, phase := .done (.answer 7 v0) } { call := .publish [(20, [3], [4]), (21, [], [5])] }
  (.answer 7 v0) (by decide +kernel) rfl (by decide +kernel) rfl
example := Klev.C08.publish_entry_range v0 [(2, .read 7, [], .answer 7 v0)]
  [(1, .delete [0], [m0], .deleted [m0])] 0 [(20, [3], [4]), (21, [], [5])] [] (.next 4) (by decide +kernel)
example := Klev.C08.no_unreported_loss v0 (run (init v0 ths) sched).log (by decide +kernel) m0 (by decide +kernel) (by decide +kernel)
-- after `[0, 0]` thread 0 holds the writer lock (files written, not yet committed)
example := Klev.C08.writer_exclusive v0 ths (by unfold Fresh; decide +kernel) [0, 0] 0 0
  { call := .publish [(20, [3], [4]), (21, [], [5])], phase := .pubWritten [m2, m3] }
  { call := .publish [(20, [3], [4]), (21, [], [5])], phase := .pubWritten [m2, m3] }
  (by decide +kernel) (by decide +kernel) rfl rfl

end NonVacuity

#print axioms Klev.C08.source_facts
#print axioms Klev.C08.linearizable
#print axioms Klev.C08.done_result_in_log
#print axioms Klev.C08.realtime_order
#print axioms Klev.C08.publish_entry_range
#print axioms Klev.C08.no_unreported_loss
#print axioms Klev.C08.writer_exclusive
#print axioms Klev.C08.publish_refines
#print axioms Klev.C08.delete_refines
#print axioms Klev.C08.reads_look_once
#print axioms Klev.C08.getByTime_empty_head
#print axioms Klev.C08.consumeByKey_two_looks
#print axioms Klev.C08.consumeByKey_no_skip
#print axioms Klev.C08.consumeByKey_spec_l0
#print axioms Klev.C08.consumeByKey_model_is_two_looks
#print axioms Klev.C08.consumeByKey_other_order_counterexample
